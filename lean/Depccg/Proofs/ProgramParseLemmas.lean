/-
  What `Cat.parse` returns.  The reader builds a category from its tokens and the three slashes,
  so it stays inside any class of categories given atom by atom (`Closure.CatA`) that holds the
  atoms the tokens can make: `parse_inv`, used for `ReadWF` here and for XML text in
  `Props/MainTotalXml.lean`; `C05.WF` is `ReadWF` without stray brackets.
-/
import Depccg.Props.ProgramDefs
import Depccg.Proofs.C05Lemmas
import Depccg.Proofs.RuleClosure

namespace Depccg.ProgramProps
open Depccg Cat Str C05 Closure

theorem tokenize_spec (s : Str) : ∀ t ∈ tokenize s, Tok t ∧ ∀ x ∈ t, x ∈ s := fun t ht =>
  have h := tokenizeAux_spec s [] nofun t ht
  ⟨h.1, fun x hx => (h.2 x hx).resolve_left nofun⟩

theorem pp_name_of_tok {t : Str} (ht : Tok t) (h : NameTok t) : ReadName t := by
  rcases ht with ht | ⟨c, hc, rfl⟩
  · exact Or.inl ht
  · rw [isSpecial_iff] at hc
    rcases hc with rfl | rfl | rfl | rfl | rfl | rfl | rfl | rfl | rfl
    · exact Or.inr (Or.inl rfl)
    · exact Or.inr (Or.inr rfl)
    all_goals exact absurd h (by decide)

theorem pp_tok_hasEq_plain {text : Str} (ht : Tok text) (h : hasChar cEq text = true) :
    ∀ c ∈ text, plainChar c = true := by
  rcases ht with ht | ⟨c, hc, rfl⟩
  · exact ht.2
  · exfalso
    have : c = cEq := by
      simp only [hasChar, List.elem_eq_mem, List.mem_singleton, decide_eq_true_eq] at h
      exact h.symm
    subst this
    revert hc
    decide

theorem pp_feat_parse {text : Str} {f : Feat} (ht : Tok text) (h : Feat.parse text = .ok f) :
    ReadFeat f := by
  rcases feat_parse_ok h with ⟨rfl, hn⟩ | ⟨he, k1, v1, k2, v2, k3, v3, rfl, hp⟩
  · exact ⟨ht, hn⟩
  · have hpl := pp_tok_hasEq_plain ht he
    have part : ∀ p ∈ [k1, v1, k2, v2, k3, v3], TriPart p := fun p hp' x hx =>
      ⟨hpl x (hp p hp' x hx).1, (hp p hp' x hx).2⟩
    exact ⟨part _ (by simp), part _ (by simp), part _ (by simp), part _ (by simp), part _ (by simp),
      part _ (by simp)⟩

section Reader
variable {A : Str → Feat → Prop} {S : Nat → Prop}

abbrev StackIn (A : Str → Feat → Prop) (S : Nat → Prop) (st : List Item) : Prop :=
  ∀ c, Item.cat c ∈ st → CatA A S c

theorem StackIn.cat {st : List Item} (hst : StackIn A S st) {c : Cat} (hc : CatA A S c) :
    StackIn A S (.cat c :: st) := fun c' h =>
  (List.mem_cons.1 h).elim (fun e => Item.cat.inj e ▸ hc) (hst c')

theorem StackIn.sym {st : List Item} (hst : StackIn A S st) (o : Nat) : StackIn A S (.sym o :: st) :=
  fun c h => (List.mem_cons.1 h).elim nofun (hst c)

/-- the reader stays inside a class of categories that holds every slash, every name token as a
    bare atom and, unless it is a punctuation name, with the feature read from any token: each of
    the five steps keeps "the categories on the stack are in the class, the buffer holds `T`s" -/
theorem parse_inv (T : Str → Prop) (hS : ∀ s, Cat.isSlashCode s = true → S s)
    (hbare : ∀ t, T t → NameTok t → A t (.un none))
    (hfeat : ∀ t u f, T t → NameTok t → t ∉ Cat.punctuations → T u → Feat.parse u = .ok f → A t f)
    {s : Str} {c : Cat} (htok : ∀ t ∈ tokenize s, T t) (h : Cat.parse s = .ok c) : CatA A S c := by
  rw [parse_eq, readToks] at h
  split at h
  · rename_i st hst
    have hin : StackIn A S st ∧ ∀ t ∈ ([] : List Str), T t := by
      refine run_inv (I := fun st buf => StackIn A S st ∧ ∀ t ∈ buf, T t) ?_ hst ⟨nofun, htok⟩
      rintro st buf st' buf' hstep ⟨hst, hbuf⟩
      refine ⟨?_, fun t ht => hbuf t (hstep.sub t ht)⟩
      cases hstep with
      | name hn _ => exact hst.cat (hbare _ (hbuf _ (by simp)) hn)
      | feat hn hp hf =>
        exact hst.cat (hfeat _ _ _ (hbuf _ (by simp)) hn hp (hbuf _ (by simp)) hf)
      | push _ => exact hst.sym _
      | drop _ => exact fun c hc => hst c (by rcases List.mem_cons.1 hc with e | hc <;> simp [*])
      | reduce _ hs _ =>
        exact StackIn.cat (fun c hc => hst c (by simp [hc])) ⟨hst _ (by simp), hS _ hs, hst _ (by simp)⟩
    rcases finish_ok.1 h with rfl | ⟨a, s, b, rfl, hs, rfl⟩
    · exact hin.1 c (by simp)
    · exact ⟨hin.1 a (by simp), hS s hs, hin.1 b (by simp)⟩
  · cases h

end Reader

theorem pc_wf_fn {l r : Cat} {s : Nat} :
    ReadWF (.fn l s r) ↔ ReadWF l ∧ Cat.isSlashCode s = true ∧ ReadWF r := Iff.rfl

theorem readWF_iff (c : Cat) :
    ReadWF c ↔ CatA (fun b f => ReadWF (.atom b f)) (fun s => Cat.isSlashCode s = true) c :=
  catA_iff_of_fn (fun _ _ _ => pc_wf_fn) c

theorem pp_parse_readWF {s : Str} {c : Cat} (h : Cat.parse s = .ok c) : ReadWF c :=
  (readWF_iff c).2 <| parse_inv Tok (fun _ hs => hs)
    (fun _ ht hn => ⟨pp_name_of_tok ht hn, trivial, fun _ => rfl⟩)
    (fun _ _ _ ht hn hp hu hf => ⟨pp_name_of_tok ht hn, pp_feat_parse hu hf, fun hm => absurd hm hp⟩)
    (fun t ht => (tokenize_spec s t ht).1) h

theorem pp_wf_iff (c : Cat) : WF c ↔ ReadWF c ∧ BracketFree c := by
  constructor
  · intro h
    refine ⟨pp_wf_readWF h, ?_⟩
    induction c with
    | atom b f =>
      refine ⟨plain_not_special_tok h.1 special_LBr, plain_not_special_tok h.1 special_RBr, ?_⟩
      intro v c hf hc
      subst hf
      exact plain_not_special_tok h.2.1.1 hc
    | fn l s r ihl ihr => exact ⟨ihl h.1, ihr h.2.2⟩
  · rintro ⟨h, hb⟩
    induction c with
    | atom b f =>
      obtain ⟨hn, hf, hp⟩ := h
      obtain ⟨h1, h2, h3⟩ := hb
      refine ⟨?_, ?_, hp⟩
      · rcases hn with hn | hn | hn
        · exact hn
        · exact absurd hn h1
        · exact absurd hn h2
      · cases f with
        | un v =>
          cases v with
          | none => trivial
          | some v =>
            refine ⟨?_, hf.2⟩
            rcases hf.1 with hv | ⟨c, hc, rfl⟩
            · exact hv
            · exact absurd rfl (h3 _ c rfl hc)
        | tri k1 v1 k2 v2 k3 v3 => exact hf
    | fn l s r ihl ihr => exact ⟨ihl h.1 hb.1, h.2.1, ihr h.2.2 hb.2⟩

theorem pp_tok_plain {t : Str} (h : PlainTok t) : Tok t := Or.inl h

theorem pc_wf_mk_fn {l r : Cat} {s : Nat} (hl : ReadWF l) (hs : Cat.isSlashCode s = true) (hr : ReadWF r) :
    ReadWF (.fn l s r) := ⟨hl, hs, hr⟩

theorem pc_wf_clear (args : List Str) {c c' : Cat} (h : ReadWF c) (hc : Cat.clear args c = .ok c') :
    ReadWF c' :=
  clear_closed readWF_iff (fun _ _ h => ⟨h.1, trivial, fun _ => rfl⟩) args h hc

theorem pc_wf_leftOf {x l : Cat} (hx : ReadWF x) (h : Ja.leftOf x = .ok l) : ReadWF l :=
  (readWF_iff l).2 (gives_leftOf ((readWF_iff x).1 hx) h)

end Depccg.ProgramProps
