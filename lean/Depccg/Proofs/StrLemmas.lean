/-
  What the functions of `Depccg/Str.lean` do on the forms of input the printers produce and the
  readers meet; each fact once, about variables.
-/
import Depccg.Str
import Depccg.Read.Conll

namespace Depccg.Str

theorem zipIdx_map_snd {α β : Type} (f : Nat → β) (l : List α) (k : Nat) :
    (l.zipIdx k).map (fun p => f p.2) = (List.range' k l.length).map f := by
  rw [← List.zipIdx_map_snd, List.map_map]
  rfl

theorem nodup_map_of_inj {α β : Type} {f : α → β} (hf : ∀ a b, f a = f b → a = b) {l : List α}
    (h : l.Nodup) : (l.map f).Nodup := by
  rw [List.Nodup, List.pairwise_map]
  exact h.imp (fun hne e => hne (hf _ _ e))

theorem filterMap_of_map_some {α β : Type} {f : α → Option β} {l : List α} {ys : List β}
    (h : l.map f = ys.map some) : l.filterMap f = ys := by
  have := congrArg (List.filterMap id) h
  rwa [List.filterMap_map, List.filterMap_map, Function.id_comp, Function.id_comp, List.filterMap_some] at this

theorem set_mid {α : Type} (x a : α) : ∀ (xs ys : List α), (xs ++ x :: ys).set xs.length a = xs ++ a :: ys
  | [], _ => rfl
  | z :: zs, ys => by simp [set_mid x a zs ys]

theorem ite_beq_left {a b : Str} (h : b ≠ a) (c : Bool) : ((if c then a else b) == a) = c := by
  cases c <;> simp [h]

/-- the text does not go on with a `p` character: where a run of `p` characters read by
    `takeWhile`/`dropWhile` ends, and where a skipper of `p` characters does nothing -/
def Stops {α : Type} (p : α → Bool) : List α → Prop
  | [] => True
  | c :: _ => p c = false

theorem span_stops {α : Type} {p : α → Bool} {ds rest : List α} (hd : ∀ c ∈ ds, p c = true)
    (hr : Stops p rest) : (ds ++ rest).takeWhile p = ds ∧ (ds ++ rest).dropWhile p = rest := by
  rw [List.takeWhile_append_of_pos hd, List.dropWhile_append_of_pos hd]
  cases rest with
  | nil => simp
  | cons c r => simp [show p c = false from hr]

theorem span_all {α : Type} {p : α → Bool} {l : List α} (h : ∀ c ∈ l, p c = true) :
    l.takeWhile p = l ∧ l.dropWhile p = [] := by
  simpa using span_stops (rest := []) h True.intro

theorem dropWhile_stops {p : Nat → Bool} {s : Str} (h : Stops p s) : s.dropWhile p = s := by
  cases s with
  | nil => rfl
  | cons c r => exact List.dropWhile_cons_of_neg (by rw [show p c = false from h]; decide)

theorem length_dropWhile_le (p : Nat → Bool) (l : Str) : (l.dropWhile p).length ≤ l.length :=
  (List.dropWhile_suffix p).length_le

theorem dropWhile_head {p : Nat → Bool} (s : Str) (a : Nat) (h : (s.dropWhile p).head? = some a) :
    p a = false := by
  have := List.head?_dropWhile_not p s
  rwa [h] at this

/-- what every white-space skipper of the readers is -/
theorem skip_eq_dropWhile {p : Nat → Bool} {f : Str → Str} (h0 : f [] = [])
    (hc : ∀ c cs, f (c :: cs) = if p c then f cs else c :: cs) : ∀ s, f s = s.dropWhile p
  | [] => h0
  | c :: cs => by
    rw [hc, List.dropWhile_cons, skip_eq_dropWhile h0 hc cs]

theorem bne_of_notMem {x : Nat} {t : Str} (h : x ∉ t) : ∀ c ∈ t, (c != x) = true :=
  fun c hc => by simpa using fun e : c = x => h (e ▸ hc)

theorem span_ne_append {x : Nat} {t : Str} (k : Str) (h : x ∉ t) :
    (t ++ x :: k).takeWhile (· != x) = t ∧ (t ++ x :: k).dropWhile (· != x) = x :: k :=
  span_stops (bne_of_notMem h) (show (x != x) = false by simp)

theorem append_sep_inj {c : Nat} {d1 d2 t1 t2 : Str} (h1 : c ∉ d1) (h2 : c ∉ d2)
    (h : d1 ++ c :: t1 = d2 ++ c :: t2) : d1 = d2 ∧ t1 = t2 := by
  have a := span_ne_append t1 h1
  rw [h, (span_ne_append t2 h2).1, (span_ne_append t2 h2).2] at a
  exact ⟨a.1.symm, (List.cons.inj a.2).2.symm⟩

theorem startsWith_append (p s : Str) : startsWith (p ++ s) p = true := by
  induction p with
  | nil => cases s <;> rfl
  | cons x r ih => simp [startsWith, ih]

theorem prefix_of_startsWith : ∀ {s p : Str}, startsWith s p = true → ∃ r, s = p ++ r
  | _, [], _ => ⟨_, rfl⟩
  | [], _ :: _, h => by cases h
  | x :: xs, p :: ps, h => by
    simp only [startsWith, Bool.and_eq_true, beq_iff_eq] at h
    obtain ⟨r, hr⟩ := prefix_of_startsWith h.2
    exact ⟨r, by rw [h.1, hr]; rfl⟩

theorem findChar_none (c : Nat) (s : Str) (h : c ∉ s) : findChar c s = none := by
  induction s with
  | nil => rfl
  | cons x xs ih =>
    have hx : x ≠ c := fun e => h (by simp [e])
    have hxs : c ∉ xs := fun m => h (by simp [m])
    simp [findChar, hx, ih hxs]

theorem findChar_append (c : Nat) (field rest : Str) (h : c ∉ field) :
    findChar c (field ++ c :: rest) = some field.length := by
  induction field with
  | nil => simp [findChar]
  | cons x xs ih =>
    have hx : x ≠ c := fun e => h (by simp [e])
    have hxs : c ∉ xs := fun m => h (by simp [m])
    simp [findChar, hx, ih hxs]

theorem mem_replaceChar {old c : Nat} {new s : Str} :
    c ∈ replaceChar old new s ↔ (c ∈ new ∧ old ∈ s) ∨ (c ∈ s ∧ c ≠ old) := by
  induction s with
  | nil => simp [replaceChar]
  | cons x xs ih =>
    by_cases hx : x = old
    · subst hx
      simp only [replaceChar, if_true, List.mem_append, ih, List.mem_cons, true_or, and_true]
      constructor
      · rintro (h | ⟨h, _⟩ | ⟨h, hne⟩)
        · exact Or.inl h
        · exact Or.inl h
        · exact Or.inr ⟨Or.inr h, hne⟩
      · rintro (h | ⟨h | h, hne⟩)
        · exact Or.inl h
        · exact absurd h hne
        · exact Or.inr (Or.inr ⟨h, hne⟩)
    · have hx' : old ≠ x := fun e => hx e.symm
      simp only [replaceChar, if_neg hx, List.mem_cons, ih, hx', false_or]
      constructor
      · rintro (rfl | h | ⟨h, hne⟩)
        · exact Or.inr ⟨Or.inl rfl, hx⟩
        · exact Or.inl h
        · exact Or.inr ⟨Or.inr h, hne⟩
      · rintro (h | ⟨rfl | h, hne⟩)
        · exact Or.inr (Or.inl h)
        · exact Or.inl rfl
        · exact Or.inr (Or.inr ⟨h, hne⟩)

theorem replaceChar_id {old : Nat} {new s : Str} (h : old ∉ s) : replaceChar old new s = s := by
  induction s with
  | nil => rfl
  | cons x xs ih =>
    have hx : x ≠ old := fun e => h (by simp [e])
    have hxs : old ∉ xs := fun m => h (by simp [m])
    simp [replaceChar, hx, ih hxs]

theorem replaceChar_eq_nil {old : Nat} {new s : Str} (hn : new ≠ []) (h : replaceChar old new s = []) :
    s = [] := by
  cases s with
  | nil => rfl
  | cons x xs =>
    simp only [replaceChar] at h
    split at h
    · simp [hn] at h
    · simp at h

theorem replaceChar_eq_singleton {old : Nat} {new s : Str} {c : Nat} (hn : 2 ≤ new.length)
    (h : replaceChar old new s = [c]) : s = [c] := by
  have hn' : new ≠ [] := by intro e; simp [e] at hn
  cases s with
  | nil => simp [replaceChar] at h
  | cons x xs =>
    simp only [replaceChar] at h
    split at h
    · have := congrArg List.length h
      simp at this
      omega
    · simp only [List.cons.injEq] at h
      rw [h.1, replaceChar_eq_nil hn' h.2]

theorem notMem_replaceChar_self {old : Nat} {new : Str} (s : Str) (h : old ∉ new) :
    old ∉ replaceChar old new s :=
  fun hm => (mem_replaceChar.1 hm).elim (fun h' => h h'.1) (fun h' => h'.2 rfl)

theorem notMem_replaceChar {old c : Nat} {new s : Str} (hn : c ∉ new) (hs : c ∉ s) :
    c ∉ replaceChar old new s :=
  fun hm => (mem_replaceChar.1 hm).elim (fun h' => hn h'.1) (fun h' => hs h'.1)

theorem joinSep_cons (sep : Nat) (x : Str) {l : List Str} (h : l ≠ []) :
    joinSep sep (x :: l) = x ++ sep :: joinSep sep l := by
  cases l with
  | nil => exact absurd rfl h
  | cons y ys => rfl

theorem joinSep_append (sep : Nat) {A B : List Str} (hA : A ≠ []) (hB : B ≠ []) :
    joinSep sep (A ++ B) = joinSep sep A ++ sep :: joinSep sep B := by
  induction A with
  | nil => exact absurd rfl hA
  | cons x xs ih =>
    cases xs with
    | nil => rw [List.singleton_append, joinSep_cons sep x hB]; rfl
    | cons y ys =>
      rw [List.cons_append, joinSep_cons sep x (by simp), ih (by simp), joinSep_cons sep x (by simp)]
      simp

theorem mem_joinSep {sep c : Nat} : ∀ {parts : List Str},
    c ∈ joinSep sep parts ↔ (∃ p ∈ parts, c ∈ p) ∨ (c = sep ∧ 2 ≤ parts.length)
  | [] => by simp [joinSep]
  | [x] => by simp [joinSep]
  | x :: y :: rest => by
    have ih := mem_joinSep (sep := sep) (c := c) (parts := y :: rest)
    simp only [joinSep, List.mem_append, List.mem_cons] at ih ⊢
    rw [ih]
    simp only [List.length_cons]
    constructor
    · rintro (h | h | ⟨p, hp, hc⟩ | ⟨h, _⟩)
      · exact Or.inl ⟨x, Or.inl rfl, h⟩
      · exact Or.inr ⟨h, by omega⟩
      · exact Or.inl ⟨p, Or.inr hp, hc⟩
      · exact Or.inr ⟨h, by omega⟩
    · rintro (⟨p, rfl | hp, hc⟩ | ⟨h, _⟩)
      · exact Or.inl hc
      · exact Or.inr (Or.inr (Or.inl ⟨p, hp, hc⟩))
      · exact Or.inr (Or.inl h)

theorem forall_mem_joinSep {P : Nat → Prop} {sep : Nat} {parts : List Str} :
    (∀ c ∈ joinSep sep parts, P c) ↔ (∀ p ∈ parts, ∀ c ∈ p, P c) ∧ (2 ≤ parts.length → P sep) := by
  simp only [mem_joinSep]
  exact ⟨fun h => ⟨fun p hp c hc => h c (Or.inl ⟨p, hp, hc⟩), fun hl => h sep (Or.inr ⟨rfl, hl⟩)⟩,
    fun h c hc => hc.elim (fun ⟨p, hp, hc⟩ => h.1 p hp c hc) (fun ⟨e, hl⟩ => e ▸ h.2 hl)⟩

theorem joinSep_mid (sep : Nat) (pre : List Str) (x : List Str) (q : Str) (post : List Str) (hx : x ≠ []) :
    joinSep sep (pre ++ joinSep sep x :: q :: post) = joinSep sep (pre ++ x ++ q :: post) := by
  have hpost : q :: post ≠ [] := List.cons_ne_nil q post
  induction pre with
  | nil =>
    simp only [List.nil_append]
    rw [joinSep_cons sep _ hpost, joinSep_append sep hx hpost]
  | cons p ps ih =>
    rw [List.cons_append, List.cons_append, List.cons_append, joinSep_cons sep p (by simp),
      joinSep_cons sep p (by simp [hx]), ih]

theorem length_le_joinSep (sep : Nat) : ∀ parts : List Str, parts.length ≤ (joinSep sep parts).length + 1
  | [] => by simp
  | [x] => by simp [joinSep]
  | x :: y :: r => by
    have := length_le_joinSep sep (y :: r)
    simp only [joinSep, List.length_append, List.length_cons] at this ⊢
    omega

theorem joinSep_dropLast (c : Nat) (p : List Str) (x : Str) (hx : x ≠ []) :
    (joinSep c (p ++ [x])).dropLast = joinSep c (p ++ [x.dropLast]) := by
  by_cases hp : p = []
  · subst hp; simp [joinSep]
  · rw [joinSep_append c (B := [x]) hp (by simp), joinSep_append c (B := [x.dropLast]) hp (by simp)]
    simp only [joinSep]
    rw [List.dropLast_append_of_ne_nil (by simp), List.dropLast_cons_of_ne_nil hx]

theorem count_joinSep (sep : Nat) : ∀ (parts : List Str), parts ≠ [] →
    (joinSep sep parts).count sep + 1 = parts.length + (parts.map (·.count sep)).sum
  | [], h => absurd rfl h
  | [x], _ => by simp [joinSep]; omega
  | x :: y :: rest, _ => by
    have ih := count_joinSep sep (y :: rest) (by simp)
    simp only [joinSep, List.count_append, List.count_cons_self, List.length_cons, List.map_cons,
      List.sum_cons] at ih ⊢
    omega

theorem splitOn_nil (c : Nat) : splitOn c [] = [[]] := rfl

theorem splitOnAux_eq (c : Nat) : ∀ (s acc : Str),
    splitOnAux c acc s = (acc.reverse ++ (splitOn c s).headD []) :: (splitOn c s).tail
  | [], acc => by simp [splitOn, splitOnAux]
  | x :: xs, acc => by
    simp only [splitOn, splitOnAux]
    split
    · simp
    · rw [splitOnAux_eq c xs (x :: acc), splitOnAux_eq c xs [x]]
      simp

theorem splitOn_cons_sep (c : Nat) (s : Str) : splitOn c (c :: s) = [] :: splitOn c s := by
  simp [splitOn, splitOnAux]

theorem splitOn_cons_of_ne {c x : Nat} (s : Str) (h : x ≠ c) :
    splitOn c (x :: s) = (x :: (splitOn c s).headD []) :: (splitOn c s).tail := by
  rw [splitOn, splitOnAux, if_neg h, splitOnAux_eq]
  rfl

theorem splitOn_ne_nil (c : Nat) (s : Str) : splitOn c s ≠ [] := by
  cases s with
  | nil => simp [splitOn_nil]
  | cons x xs =>
    by_cases h : x = c
    · simp [h, splitOn_cons_sep]
    · simp [splitOn_cons_of_ne xs h]

theorem splitOn_of_notMem (c : Nat) {k : Str} (hk : c ∉ k) : splitOn c k = [k] := by
  induction k with
  | nil => rfl
  | cons x xs ih =>
    have hx : x ≠ c := fun e => hk (by simp [e])
    rw [splitOn_cons_of_ne xs hx, ih fun m => hk (by simp [m])]
    rfl

theorem splitOn_append_sep (c : Nat) (a b : Str) :
    splitOn c (a ++ c :: b) = splitOn c a ++ splitOn c b := by
  induction a with
  | nil => simp [splitOn_cons_sep, splitOn_nil]
  | cons x xs ih =>
    by_cases h : x = c
    · simp [h, splitOn_cons_sep, ih]
    · rw [List.cons_append, splitOn_cons_of_ne _ h, splitOn_cons_of_ne _ h, ih]
      cases hs : splitOn c xs with
      | nil => exact absurd hs (splitOn_ne_nil c xs)
      | cons f fs => rfl

theorem splitOn_sep (c : Nat) {k rest : Str} (hk : c ∉ k) :
    splitOn c (k ++ c :: rest) = k :: splitOn c rest := by
  rw [splitOn_append_sep, splitOn_of_notMem c hk]
  rfl

theorem splitOn_joinSep (c : Nat) (fs : List Str) (hne : fs ≠ []) (h : ∀ f ∈ fs, c ∉ f) :
    splitOn c (joinSep c fs) = fs := by
  induction fs with
  | nil => exact absurd rfl hne
  | cons x r ih =>
    cases r with
    | nil => exact splitOn_of_notMem c (h x (by simp))
    | cons y r' =>
      rw [joinSep_cons c x (by simp), splitOn_sep c (h x (by simp)),
        ih (by simp) (fun f hf => h f (List.mem_cons_of_mem _ hf))]

theorem mem_of_mem_splitOn {c : Nat} : ∀ {s p : Str}, p ∈ splitOn c s → ∀ x ∈ p, x ∈ s ∧ x ≠ c
  | [], p, hp, x, hx => by
    rw [splitOn_nil, List.mem_singleton] at hp
    subst hp
    cases hx
  | y :: ys, p, hp, x, hx => by
    have ih := fun p hp => mem_of_mem_splitOn (c := c) (s := ys) (p := p) hp x
    by_cases h : y = c
    · rw [h, splitOn_cons_sep] at hp
      rcases List.mem_cons.1 hp with rfl | hp
      · cases hx
      · exact ⟨List.mem_cons_of_mem _ (ih p hp hx).1, (ih p hp hx).2⟩
    · rw [splitOn_cons_of_ne ys h] at hp
      cases hs : splitOn c ys with
      | nil => exact absurd hs (splitOn_ne_nil c ys)
      | cons f fs =>
        rw [hs] at hp ih
        rcases List.mem_cons.1 hp with rfl | hp
        · rcases List.mem_cons.1 hx with rfl | hx
          · exact ⟨List.mem_cons_self, h⟩
          · exact ⟨List.mem_cons_of_mem _ (ih f (by simp) hx).1, (ih f (by simp) hx).2⟩
        · exact ⟨List.mem_cons_of_mem _ (ih p (List.mem_cons_of_mem f hp) hx).1,
            (ih p (List.mem_cons_of_mem f hp) hx).2⟩

theorem splitOn_length (c : Nat) : ∀ s : Str, (splitOn c s).length = s.count c + 1
  | [] => rfl
  | x :: xs => by
    have ih := splitOn_length c xs
    by_cases h : x = c
    · simp [h, splitOn_cons_sep, ih]
    · rw [splitOn_cons_of_ne xs h, List.count_cons_of_ne h, ← ih]
      cases hs : splitOn c xs with
      | nil => exact absurd hs (splitOn_ne_nil c xs)
      | cons f fs => rfl

theorem splitOn_head_prefix (c : Nat) : ∀ s : Str, (splitOn c s).headD [] <+: s
  | [] => List.prefix_refl _
  | x :: xs => by
    by_cases h : x = c
    · simp [h, splitOn_cons_sep]
    · rw [splitOn_cons_of_ne xs h]
      obtain ⟨t, ht⟩ := splitOn_head_prefix c xs
      exact ⟨t, by rw [List.headD_cons, List.cons_append, ht]⟩

/-- every part followed by the separator: with the newline, the lines of a text each with its own
    (`Read.blockText`, `FileProps.blankFront` are `frontText 10`) -/
def frontText (sep : Nat) (parts : List Str) : Str := (parts.map (· ++ [sep])).flatten

theorem frontText_cons (sep : Nat) (l : Str) (ls : List Str) :
    frontText sep (l :: ls) = l ++ sep :: frontText sep ls := by
  simp [frontText]

theorem frontText_append (sep : Nat) (a b : List Str) :
    frontText sep (a ++ b) = frontText sep a ++ frontText sep b := by
  simp [frontText]

theorem frontText_snoc (sep : Nat) (pre : List Str) (x : Str) :
    frontText sep (pre ++ [x]) = frontText sep pre ++ x ++ [sep] := by
  simp [frontText]

theorem joinSep_snoc (sep : Nat) (parts : List Str) (y : Str) :
    joinSep sep (parts ++ [y]) = frontText sep parts ++ y := by
  induction parts with
  | nil => rfl
  | cons x xs ih =>
    rw [List.cons_append, joinSep_cons sep x (by simp), ih]
    simp [frontText]

theorem frontText_joinSep (sep : Nat) {parts : List Str} (hne : parts ≠ []) :
    frontText sep parts = joinSep sep parts ++ [sep] := by
  obtain ⟨init, last, rfl⟩ := (List.eq_nil_or_concat parts).resolve_left hne
  rw [List.concat_eq_append, joinSep_snoc, frontText_snoc]

theorem splitOn_frontText (sep : Nat) : ∀ (parts : List Str) (rest : Str), (∀ l ∈ parts, sep ∉ l) →
    splitOn sep (frontText sep parts ++ rest) = parts ++ splitOn sep rest
  | [], rest, _ => by simp [frontText]
  | l :: parts, rest, h => by
    rw [frontText_cons, List.append_assoc, List.cons_append, splitOn_sep sep (h l (by simp)),
      splitOn_frontText sep parts rest (fun q hq => h q (List.mem_cons_of_mem _ hq))]
    rfl

theorem natDigitsAux_eq : ∀ (n fuel : Nat) (acc : Str), n < fuel →
    natDigitsAux fuel n acc = Str.ofNat n ++ acc := by
  intro n
  induction n using Nat.strongRecOn with
  | _ n ih =>
    intro fuel acc h
    cases fuel with
    | zero => omega
    | succ f =>
      unfold Str.ofNat
      by_cases hlt : n < 10
      · simp [natDigitsAux, hlt]
      · have h1 : n / 10 < n := by omega
        rw [natDigitsAux, if_neg hlt, natDigitsAux, if_neg hlt]
        rw [ih (n / 10) h1 f _ (by omega), ih (n / 10) h1 n _ h1]
        simp

theorem ofNat_lt {n : Nat} (h : n < 10) : Str.ofNat n = [48 + n] := by
  simp [Str.ofNat, natDigitsAux, h]

theorem ofNat_ge {n : Nat} (h : ¬ n < 10) : Str.ofNat n = Str.ofNat (n / 10) ++ [48 + n % 10] := by
  have h1 : n / 10 < n := by omega
  conv => lhs; unfold Str.ofNat
  rw [natDigitsAux, if_neg h, natDigitsAux_eq (n / 10) n _ h1]

theorem ofNat_digits : ∀ (n : Nat), ∀ c ∈ Str.ofNat n, 48 ≤ c ∧ c ≤ 57 := by
  intro n
  induction n using Nat.strongRecOn with
  | _ n ih =>
    intro c hc
    by_cases h : n < 10
    · rw [ofNat_lt h] at hc
      simp at hc; omega
    · rw [ofNat_ge h] at hc
      rcases List.mem_append.1 hc with hc | hc
      · exact ih (n / 10) (by omega) c hc
      · simp at hc; omega

theorem ofNat_notMem {x : Nat} (n : Nat) (h : x < 48 ∨ 57 < x) : x ∉ Str.ofNat n := by
  intro hm
  have := ofNat_digits n x hm
  omega

theorem ofNat_length_pos (n : Nat) : 1 ≤ (Str.ofNat n).length := by
  by_cases h : n < 10
  · simp [ofNat_lt h]
  · simp [ofNat_ge h]

theorem ofNat_ne_nil (n : Nat) : Str.ofNat n ≠ [] := by
  intro h
  have := ofNat_length_pos n
  rw [h] at this
  simp at this

theorem ofNat_head (n : Nat) : ∃ d r, Str.ofNat n = d :: r ∧ 48 ≤ d ∧ d ≤ 57 := by
  cases h : Str.ofNat n with
  | nil => exact absurd h (ofNat_ne_nil n)
  | cons d r => exact ⟨d, r, rfl, ofNat_digits n d (by rw [h]; simp)⟩

theorem ofNat_bounds : ∀ n : Nat, 0 < n →
    10 ^ ((Str.ofNat n).length - 1) ≤ n ∧ n < 10 ^ (Str.ofNat n).length := by
  intro n
  induction n using Nat.strongRecOn with
  | _ n ih =>
    intro hn
    by_cases h : n < 10
    · simp [ofNat_lt h]; omega
    · have h1 : n / 10 < n := by omega
      have ⟨a, b⟩ := ih (n / 10) h1 (by omega)
      have hp := ofNat_length_pos (n / 10)
      rw [ofNat_ge h]
      simp only [List.length_append, List.length_singleton, Nat.add_sub_cancel]
      generalize (Str.ofNat (n / 10)).length = l at *
      obtain ⟨l', rfl⟩ : ∃ l', l = l' + 1 := ⟨l - 1, by omega⟩
      simp only [Nat.add_sub_cancel] at a
      rw [Nat.pow_succ] at b ⊢
      rw [Nat.pow_succ]
      omega

theorem ofNat_length_le {n k : Nat} (hk : 1 ≤ k) (h : n < 10 ^ k) : (Str.ofNat n).length ≤ k := by
  rcases Nat.eq_zero_or_pos n with rfl | hn
  · simpa [ofNat_lt] using hk
  · have ⟨a, _⟩ := ofNat_bounds n hn
    rcases Nat.lt_or_ge k (Str.ofNat n).length with hlt | hge
    · have : 10 ^ k ≤ 10 ^ ((Str.ofNat n).length - 1) := Nat.pow_le_pow_right (by omega) (by omega)
      omega
    · exact hge

theorem lt_ofNat_length {n k : Nat} (h : 10 ^ k ≤ n) : k < (Str.ofNat n).length := by
  have ⟨_, b⟩ := ofNat_bounds n (Nat.lt_of_lt_of_le (Nat.pow_pos (by omega)) h)
  rcases Nat.lt_or_ge k (Str.ofNat n).length with hlt | hge
  · exact hlt
  · have := Nat.pow_le_pow_right (n := 10) (by omega) hge
    omega

def ofDigits (a : Nat) (s : Str) : Nat := s.foldl (fun a c => 10 * a + (c - 48)) a

theorem ofDigits_append (a : Nat) (s t : Str) : ofDigits a (s ++ t) = ofDigits (ofDigits a s) t :=
  List.foldl_append

theorem ofDigits_zeros (s : Str) : ∀ j : Nat, ofDigits 0 (List.replicate j 48 ++ s) = ofDigits 0 s
  | 0 => rfl
  | j + 1 => ofDigits_zeros s j

theorem ofDigits_ofNat (n : Nat) : ofDigits 0 (Str.ofNat n) = n := by
  induction n using Nat.strongRecOn with
  | _ n ih =>
    by_cases h : n < 10
    · rw [ofNat_lt h]
      simp only [ofDigits, List.foldl_cons, List.foldl_nil]
      omega
    · rw [ofNat_ge h, ofDigits_append, ih (n / 10) (by omega)]
      simp only [ofDigits, List.foldl_cons, List.foldl_nil]
      omega

theorem ofNat_inj {i j : Nat} (h : Str.ofNat i = Str.ofNat j) : i = j := by
  rw [← ofDigits_ofNat i, h, ofDigits_ofNat]

theorem foldl_digits {F : Option Nat → Nat → Option Nat}
    (hF : ∀ a c, 48 ≤ c ∧ c ≤ 57 → F (some a) c = some (10 * a + (c - 48))) :
    ∀ {d : Str} (a : Nat), (∀ c ∈ d, 48 ≤ c ∧ c ≤ 57) → d.foldl F (some a) = some (ofDigits a d)
  | [], _, _ => rfl
  | c :: d, a, h => by
    rw [List.foldl_cons, hF a c (h c List.mem_cons_self)]
    exact foldl_digits hF _ fun x hx => h x (List.mem_cons_of_mem _ hx)

theorem append_ofNat_inj {p p' : Str} {n n' : Nat} (hp : ∀ c ∈ p, c < 48 ∨ 57 < c)
    (hp' : ∀ c ∈ p', c < 48 ∨ 57 < c) (h : p ++ Str.ofNat n = p' ++ Str.ofNat n') : p = p' ∧ n = n' := by
  have key : ∀ {p : Str} (n : Nat), (∀ c ∈ p, c < 48 ∨ 57 < c) →
      (p ++ Str.ofNat n).takeWhile (fun c => decide (c < 48 ∨ 57 < c)) = p := fun n hp => by
    obtain ⟨d, r, hd, h1, h2⟩ := ofNat_head n
    rw [hd]
    exact (span_stops (rest := d :: r) (fun c hc => decide_eq_true (hp c hc))
      (show decide (d < 48 ∨ 57 < d) = false from decide_eq_false (by omega))).1
  have e : p = p' := by rw [← key n hp, h, key n' hp']
  subst e
  exact ⟨rfl, Str.ofNat_inj (List.append_cancel_left h)⟩

/-- the number texts print `-` when `k < 0` and then `k.natAbs` -/
theorem signed_natAbs (k : Int) : (if k < 0 then -(k.natAbs : Int) else (k.natAbs : Int)) = k := by
  split <;> omega

end Depccg.Str

/-! `Read.conllNat` is the decimal reader of the conll, json and xml readers alike, so its round trip
  stands here, below all three. `conllDigits` is a recursion, not a fold: `foldl_digits` does not apply. -/
namespace Depccg.C07
open Depccg Str Read

theorem cn_conllDigits_digits : ∀ (d : Str) (a : Nat), (∀ c ∈ d, 48 ≤ c ∧ c ≤ 57) →
    conllDigits a d = some (Str.ofDigits a d)
  | [], _, _ => rfl
  | c :: d, a, h => by
    rw [conllDigits, if_pos (h c List.mem_cons_self),
      cn_conllDigits_digits d _ fun x hx => h x (List.mem_cons_of_mem _ hx), Nat.mul_comm]
    rfl

theorem cn_conllDigits_ofNat (n : Nat) : conllDigits 0 (Str.ofNat n) = some n := by
  rw [cn_conllDigits_digits _ 0 (ofNat_digits n), ofDigits_ofNat]

theorem cn_ofNat_head_zero (n : Nat) : ∃ c r, Str.ofNat n = c :: r ∧ (c = 48 → n = 0) := by
  induction n using Nat.strongRecOn with
  | _ n ih =>
    by_cases hn : n < 10
    · exact ⟨48 + n, [], ofNat_lt hn, by omega⟩
    · obtain ⟨c, r, ih2, ih3⟩ := ih (n / 10) (by omega)
      refine ⟨c, r ++ [48 + n % 10], by rw [ofNat_ge hn, ih2]; rfl, fun hc => ?_⟩
      have := ih3 hc
      omega

theorem cn_conllNat_ofNat (n : Nat) : conllNat (Str.ofNat n) = some n := by
  have h1 := cn_conllDigits_ofNat n
  obtain ⟨c, r, h2, h3⟩ := cn_ofNat_head_zero n
  rw [h2] at h1 ⊢
  cases r with
  | nil => exact h1
  | cons d r' =>
    simp only [conllNat]
    split
    · next hc =>
      have hn := h3 hc
      subst hn
      simp [ofNat_lt] at h2
    · exact h1

theorem cn_conllNat_head {a : Str} {i : Nat} (h : conllNat a = some i) :
    ∃ c a', a = c :: a' ∧ 48 ≤ c ∧ c ≤ 57 := by
  have hd : ∀ c cs, conllDigits 0 (c :: cs) = some i → 48 ≤ c ∧ c ≤ 57 := fun c cs h => by
    simp only [conllDigits] at h
    split at h
    · assumption
    · cases h
  match a, h with
  | [c], h => exact ⟨c, [], rfl, hd c [] h⟩
  | c :: d :: r, h =>
    simp only [conllNat] at h
    split at h
    · cases h
    · exact ⟨c, d :: r, rfl, hd _ _ h⟩

end Depccg.C07
