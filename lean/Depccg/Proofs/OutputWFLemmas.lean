/-
  What the caller receives for a sentence parsed after any history of the call, in the form in which
  the theorems about `Search.run`, `retrieve` and `C12.Mirrors` apply to it as they stand
  (`sentence_run`, `sentence_pair`, and `sentenceL_ok`: the sentence is parsed at all).  What the
  printers and the totality of the program
  need of the shipped grammars as `toE2E`: the labels of their results and the classes `CatA A S`
  they keep.  For `Props/OutputWF.lean`: the leaves of a returned tree carry categories of the
  caller's list (a leaf's tag id is a column of the tag matrix, the table of the run extends the
  caller's list by prefix).
-/
import Depccg.Props.OutputWFDefs
import Depccg.Props.LazySearch
import Depccg.Props.Closure
import Depccg.Props.C03
import Depccg.Props.C04
import Depccg.Proofs.LazySentenceLemmas

namespace Depccg.LazyProps
open Depccg Search SearchProps GlueTree GlueRun Lazy GlueRunProps

theorem sentence_run {G : GlueRun.CatGrammar} {categories roots : List Cat} {calls : List Call}
    {cfg : Cfg} {maxLength : Option Nat} {x : SentIn} {trees : List (Tree × Int)}
    (hnd : categories.Nodup) (hlex : LexOK categories x)
    (h : (sentenceL pickHeap G (addRoots categories roots).2 cfg maxLength
        (calls.foldl (GlueRun.step G) (GlueRun.init categories roots)) x).1 = .ok (.parsed trees)) :
    ∃ gF : GSt, Inv' G gF ∧ categories <+: gF.cats ∧
      (run (view gF) (sentOf (addRoots categories roots).2 x) cfg).results ≠ [] ∧
      treesOf gF x.tokens (run (view gF) (sentOf (addRoots categories roots).2 x) cfg).results = .ok trees := by
  have hready := ready_of_history G categories roots calls x hnd hlex
  obtain ⟨hne, htr⟩ := sentenceL_parsed h
  rw [lz_run_eq pickHeap_ok hready.inv hready.lex] at hne htr
  exact ⟨_, lz_run_inv pickHeap _ cfg hready.inv,
    lz_run_history_prefix pickHeap G categories roots calls _ cfg, hne, htr⟩

theorem sentence_pair {G : GlueRun.CatGrammar} {categories roots : List Cat} {calls : List Call}
    {cfg : Cfg} {maxLength : Option Nat} {x : SentIn} {trees : List (Tree × Int)}
    (hnd : categories.Nodup) (hlex : LexOK categories x)
    (h : (sentenceL pickHeap G (addRoots categories roots).2 cfg maxLength
        (calls.foldl (GlueRun.step G) (GlueRun.init categories roots)) x).1 = .ok (.parsed trees)) :
    ∀ ts ∈ trees, ∃ (gF : GSt) (d : Deriv), Inv' G gF ∧ categories <+: gF.cats ∧
      LicensedRoot (view gF) (sentOf (addRoots categories roots).2 x) cfg d ∧
      C12.Mirrors (tablesOf gF) x.tokens d ts.1 ∧
      ts.2 = modelScore (sentOf (addRoots categories roots).2 x) cfg d := by
  intro ts hts
  obtain ⟨gF, hinv, hpre, -, htr⟩ := sentence_run hnd hlex h
  obtain ⟨r, hr, hret, hprio⟩ := treesOf_mem htr hts
  have hval := (run_returned_valid _ _ cfg r hr).1
  exact ⟨gF, r.d, hinv, hpre, hval, C12.mirrors_of_retrieve hval.1 hret,
    hprio.trans (run_score_accounting _ _ cfg r hr)⟩

theorem sentenceL_ok {G : GlueRun.CatGrammar} {rootIds : List Nat} {cfg : Cfg} {maxLength : Option Nat}
    {gst : GSt} {x : SentIn} (h : Ready G gst (sentOf rootIds x)) :
    ∃ r, (sentenceL pickHeap G rootIds cfg maxLength gst x).1 = .ok r := by
  obtain ⟨ts, hts⟩ := lazy_retrieve_total pickHeap G gst (sentOf rootIds x) cfg x.tokens pickHeap_ok h.inv rfl h.lex
  rw [sentenceL_eq]
  split
  · exact ⟨_, rfl⟩
  · rw [sentenceL_go_eq, hts]
    dsimp only
    split <;> exact ⟨_, rfl⟩

end Depccg.LazyProps

namespace Depccg.CliProps
open Depccg Str GlueRun GlueRunProps Closure

theorem shipped_bin_mem {en : Bool} {seen : Option (List (Cat × Cat))} {table : List (Cat × List Cat)}
    {x y : Cat} {r : RuleRes} (h : r ∈ (toE2E (OutputWF.shipped en seen table)).bin x y) :
    ∃ rs, (if en then En.applyBinary seen x y else Ja.applyBinary seen x y) = .ok rs ∧ r ∈ rs := by
  cases en <;> exact mem_ok_or_nil h

theorem shipped_bin_label {en : Bool} {seen : Option (List (Cat × Cat))}
    {table : List (Cat × List Cat)} {x y : Cat} {r : RuleRes}
    (h : r ∈ (toE2E (OutputWF.shipped en seen table)).bin x y) :
    (r.opString, r.opSymbol) ∈ (if en then C03.enLabels else C04.jaLabels) := by
  obtain ⟨rs, hrs, hr⟩ := shipped_bin_mem h
  cases en
  · exact C04.ja_labels_closed seen x y rs hrs r hr
  · exact C03.en_labels_closed seen x y rs hrs r hr

theorem shipped_un_label {en : Bool} {seen : Option (List (Cat × Cat))}
    {table : List (Cat × List Cat)} {x : Cat} {r : RuleRes}
    (h : r ∈ (toE2E (OutputWF.shipped en seen table)).un x) :
    if en then (r.opString = lit "tr" ∨ r.opString = lit "lex") ∧ r.opSymbol = lit "<un>"
    else r.opSymbol ∈ C04.jaUnaryLabels ∧ r.opString = r.opSymbol := by
  cases en
  · obtain ⟨rs, hrs, hr⟩ := mem_ok_or_nil h
    exact C04.ja_unary_labels_closed table x rs hrs r hr
  · exact ⟨(C03.unary_labels table x r h).1, (C03.unary_labels table x r h).2.1⟩

theorem shipped_closed {A : Str → Feat → Prop} {S : Nat → Prop} {P : Cat → Prop}
    (hP : ∀ c, P c ↔ CatA A S c) (hA : EnRuleClosed A S) (en : Bool)
    (seen : Option (List (Cat × Cat))) {table : List (Cat × List Cat)}
    (ht : ∀ p ∈ table, ∀ c ∈ p.2, P c) : ClosedUnder P (toE2E (OutputWF.shipped en seen table)) := by
  cases en
  · exact jaGrammar_closed hP seen hA.toRuleClosed ht
  · exact enGrammar_closed hP seen hA ht

end Depccg.CliProps

namespace Depccg.OutputWF
open Depccg Search SearchProps GlueTree GlueRun Lazy LazyProps GlueRunProps C05 TextProps Closure

theorem ow_sentence_trees {G : GlueRun.CatGrammar} {categories roots : List Cat} {calls : List Call}
    {cfg : Cfg} {maxLength : Option Nat} {x : SentIn} {trees : List (Tree × Int)}
    (hnd : categories.Nodup) (hlex : LexOK categories x)
    (h : (sentenceL pickHeap G (addRoots categories roots).2 cfg maxLength
        (calls.foldl (GlueRun.step G) (GlueRun.init categories roots)) x).1 = .ok (.parsed trees)) :
    ∀ ts ∈ trees, EndToEnd.TreeLicensed (toE2E G) ts.1 ∧ ts.1.tokens = x.tokens ∧
      ∀ c ∈ Closure.leafCats ts.1, c ∈ categories := by
  intro ts hts
  obtain ⟨gF, d, hinv, hpre, hroot, hm, -⟩ := sentence_pair hnd hlex h ts hts
  obtain ⟨hlic, htok, -⟩ := EndToEnd.root_mirrors_licensed hinv.represents rfl hroot hm
  refine ⟨hlic, htok, fun c hc => ?_⟩
  have hmem : some c ∈ (Closure.leafCats ts.1).map some := List.mem_map.2 ⟨c, hc, rfl⟩
  rw [← C12.mirrors_leafCats hm] at hmem
  obtain ⟨p, hp, hpc⟩ := List.mem_map.1 hmem
  obtain ⟨sc, hadm⟩ := hroot.1.leafCats_admitted p hp
  have hi := admitted_col_lt (s := sentOf (addRoots categories roots).2 x) hadm hlex
  exact List.mem_of_getElem? ((gr_prefix_get_lt hpre hi).symm.trans hpc)

end Depccg.OutputWF
