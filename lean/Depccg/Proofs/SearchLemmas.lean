/-
  Lemmas about the search model (`Depccg/Search.lean`).  The priority of a non-final item is
  `pre s s.n` minus the slack of its derivation, which is non-negative and grows towards the root
  (`Pd_eq_slack`, `slack_nonneg`, `slack_bin_ge`): hence nothing pushed beats the item just popped
  (`expand_prio_le`) and the trace is non-increasing (`PrioOK`).  Every item the search creates
  carries a licensed derivation with its scores (`ItemOK`, `StOK`).  One step of the loop is
  `stepPush`, with what is pushed as a parameter and `Closes` as the case in which something is;
  invariants of a run are proved through `final_inv`, equalities of two runs through `loop_map`.
-/
import Depccg.Props.SearchDefs

namespace Depccg.SearchProps
open Depccg Search

variable {pick : Pick} {g : Grammar} {s : Sent} {cfg : Cfg}

theorem foldl_max_spec {α : Type} (f : α → Int) (l : List α) (a m : Int)
    (hm : l.foldl (fun m x => max m (f x)) a = m) :
    a ≤ m ∧ (∀ x ∈ l, f x ≤ m) ∧ (m = a ∨ ∃ x ∈ l, f x = m) := by
  induction l generalizing a with
  | nil => subst hm; simp
  | cons y ys ih =>
    obtain ⟨h1, h2, h3⟩ := ih (max a (f y)) hm
    refine ⟨Int.le_trans (Int.le_max_left ..) h1,
      List.forall_mem_cons.2 ⟨Int.le_trans (Int.le_max_right ..) h1, h2⟩, ?_⟩
    rcases h3 with h | ⟨x, hx, e⟩
    · rw [h]
      rcases Int.le_total a (f y) with hle | hle
      · exact Or.inr ⟨y, List.mem_cons_self, (Int.max_eq_right hle).symm⟩
      · exact Or.inl (Int.max_eq_left hle)
    · exact Or.inr ⟨x, List.mem_cons_of_mem _ hx, e⟩

/-- abstract in `ins` and its test `t d c` ("`c` goes in front of `d`") so that it serves both
    `insertCand` (the beam) and `insertDesc` (the goal sort) -/
theorem insert_perm_sorted {α : Type} (key : α → Int) (ins : α → List α → List α)
    (t : α → α → Prop) [DecidableRel t] (h0 : ∀ c, ins c [] = [c])
    (h1 : ∀ c d ds, ins c (d :: ds) = if t d c then c :: d :: ds else d :: ins c ds)
    (ht : ∀ d c, t d c → key d ≤ key c) (hf : ∀ d c, ¬ t d c → key c ≤ key d) (c : α) (l : List α) :
    (ins c l).Perm (c :: l) ∧
      (l.Pairwise (fun a b => key a ≥ key b) → (ins c l).Pairwise (fun a b => key a ≥ key b)) := by
  induction l with
  | nil => rw [h0]; exact ⟨.refl _, fun _ => List.pairwise_singleton _ _⟩
  | cons d ds ih =>
    rw [h1]
    split
    · rename_i hc
      refine ⟨.refl _, fun h => List.pairwise_cons.2 ⟨?_, h⟩⟩
      intro b hb
      rcases List.mem_cons.1 hb with rfl | hb
      · exact ht _ _ hc
      · exact Int.le_trans ((List.pairwise_cons.1 h).1 b hb) (ht _ _ hc)
    · rename_i hc
      refine ⟨(ih.1.cons d).trans (.swap c d ds), fun h => ?_⟩
      rw [List.pairwise_cons] at h
      refine List.pairwise_cons.2 ⟨fun b hb => ?_, ih.2 h.2⟩
      rcases List.mem_cons.1 (ih.1.mem_iff.1 hb) with rfl | hb
      · exact hf _ _ hc
      · exact h.1 b hb

theorem foldr_insert_perm_sorted {α : Type} {R : α → α → Prop} {ins : α → List α → List α}
    (h : ∀ c l, (ins c l).Perm (c :: l) ∧ (l.Pairwise R → (ins c l).Pairwise R)) (l : List α) :
    (l.foldr ins []).Perm l ∧ (l.foldr ins []).Pairwise R := by
  induction l with
  | nil => exact ⟨.refl _, .nil⟩
  | cons c cs ih => exact ⟨(h c _).1.trans (ih.1.cons c), (h c _).2 ih.2⟩

theorem flatMap_congr {α β : Type} {l : List α} {f f' : α → List β} (h : ∀ x ∈ l, f' x = f x) :
    l.flatMap f' = l.flatMap f := by
  rw [List.flatMap_def, List.flatMap_def, List.map_congr_left h]

theorem flatMap_filter_key_perm {α : Type} (key : α → Nat) (ks : List Nat) (l : List α)
    (hnd : ks.Nodup) (hall : ∀ x ∈ l, key x ∈ ks) :
    (ks.flatMap fun k => l.filter (fun o => key o == k)).Perm l := by
  induction ks generalizing l with
  | nil =>
    cases l with
    | nil => exact .refl _
    | cons x xs => exact absurd (hall x List.mem_cons_self) (by simp)
  | cons k ks ih =>
    have hnd' := List.nodup_cons.1 hnd
    -- the groups of the other keys do not see the elements with key `k`
    have h1 : (ks.flatMap fun k' => l.filter (fun o => key o == k')) =
        ks.flatMap fun k' => (l.filter (fun o => !(key o == k))).filter (fun o => key o == k') := by
      refine flatMap_congr fun k' hk' => ?_
      rw [List.filter_filter]
      refine List.filter_congr fun x _ => ?_
      have hne : k' ≠ k := fun e => hnd'.1 (e ▸ hk')
      by_cases hxk : key x = k' <;> simp [hxk, hne]
    rw [List.flatMap_cons, h1]
    refine (List.Perm.append_left _ (ih _ hnd'.2 ?_)).trans (List.filter_append_perm _ l)
    intro x hx
    rw [List.mem_filter] at hx
    rcases List.mem_cons.1 (hall x hx.1) with e | h
    · simp [e] at hx
    · exact h

theorem sumTo_succ (f : Nat → Int) (k : Nat) : sumTo f (k + 1) = sumTo f k + f k := rfl

theorem outside_eq (f : Nat → Int) {n i j : Nat} (hij : i < j) (hj : j ≤ n) :
    outside f n i j = sumTo f i + (sumTo f n - sumTo f j) := by
  rw [outside, fromLeft, fromRight, if_pos (Nat.lt_of_lt_of_le hij hj),
    if_pos ⟨Nat.zero_lt_of_lt hij, hj⟩]

/-- the best tag and best dependency scores of the words before `i`, summed: every estimate is a
    difference of two of these (`binOut_eq`), which makes the consistency of the estimate linear
    arithmetic over the atoms `pre s i` -/
def pre (s : Sent) (i : Nat) : Int := sumTo (bestTag s) i + sumTo (bestDep s) i

theorem binOut_eq (s : Sent) {st en : Nat} (h : Nat) (h1 : st < en) (h2 : en ≤ s.n) :
    binOut s st en h = pre s s.n - (pre s en - pre s st) + bestDep s h := by
  rw [binOut, outside_eq _ h1 h2, outside_eq _ h1 h2]
  simp only [pre]
  omega

theorem leafOut_eq_binOut (s : Sent) {tok : Nat} (h : tok < s.n) :
    leafOut s tok = binOut s tok (tok + 1) tok := by
  rw [binOut_eq s tok (Nat.lt_succ_self _) h, leafOut, depLeafOut, outside_eq _ (Nat.lt_succ_self _) h]
  simp only [pre, sumTo_succ]
  omega

theorem le_rowMax {l : List Int} {x : Int} (h : x ∈ l) : x ≤ rowMax l := by
  cases l with
  | nil => cases h
  | cons y ys =>
    obtain ⟨h1, h2, -⟩ := foldl_max_spec id ys y _ rfl
    rcases List.mem_cons.1 h with rfl | h
    · exact h1
    · exact h2 x h

theorem getI_le_rowMax {l : List Int} {i : Nat} (h : i < l.length) : getI l i ≤ rowMax l :=
  le_rowMax (by simp [getI, List.getD, h])

/-- the only place where `SentOK` is taken apart: the proofs use its two clauses on `deps`; the tag
    rows enter through `mem_admitted`, which needs no hypothesis -/
theorem SentOK.depRow (h : SentOK s) {t : Nat} (ht : t < s.n) :
    (s.deps.getD t []).length = s.n + 1 := by
  obtain ⟨_, h2, h3, _⟩ := h
  apply h3
  have : t < s.deps.length := by omega
  simp [List.getD, this]

theorem depAt_le_bestDep (h : SentOK s) {t : Nat} (col : Nat) (ht : t < s.n) (hc : col ≤ s.n) :
    depAt s t col ≤ bestDep s t :=
  getI_le_rowMax (by rw [h.depRow ht]; omega)

theorem enumFrom_map_snd (l : List Int) (i : Nat) :
    (enumFrom i l).map (·.2) = List.range' i l.length := by
  induction l generalizing i with
  | nil => rfl
  | cons x xs ih => simp [enumFrom, ih, List.range'_succ]

theorem mem_enumFrom {l : List Int} {i : Nat} {p : Int × Nat} (h : p ∈ enumFrom i l) :
    i ≤ p.2 ∧ l[p.2 - i]? = some p.1 := by
  induction l generalizing i with
  | nil => cases h
  | cons x xs ih =>
    rcases List.mem_cons.1 h with rfl | h
    · simp
    · obtain ⟨h1, h2⟩ := ih h
      have e : p.2 - i = (p.2 - (i + 1)) + 1 := by omega
      exact ⟨by omega, by rw [e, List.getElem?_cons_succ]; exact h2⟩

theorem sortCands_spec {l : List (Int × Nat)} :
    (sortCands l).Perm l ∧ (sortCands l).Pairwise (fun a b => a.1 ≥ b.1) :=
  foldr_insert_perm_sorted (insert_perm_sorted (fun c : Int × Nat => c.1) insertCand
    (fun d c => d.1 < c.1 ∨ (d.1 = c.1 ∧ d.2 < c.2)) (fun _ => rfl) (fun _ _ _ => rfl)
    (fun _ _ h => by omega) (fun _ _ h => by omega)) l

theorem candidates_map_snd_perm (s : Sent) (tok : Nat) :
    ((candidates s tok).map (·.2)).Perm (List.range' 0 (s.tags.getD tok []).length) := by
  rw [← enumFrom_map_snd]
  exact sortCands_spec.1.map _

theorem mem_candidates {tok : Nat} {p : Int × Nat} (h : p ∈ candidates s tok) :
    p.2 < (s.tags.getD tok []).length ∧ p.1 = tagAt s tok p.2 := by
  have h' := mem_enumFrom (sortCands_spec.1.mem_iff.1 h)
  simp only [Nat.sub_zero] at h'
  refine ⟨(List.getElem?_eq_some_iff.1 h'.2).1, ?_⟩
  show p.1 = (s.tags.getD tok []).getD p.2 0
  rw [List.getD_eq_getElem?_getD, h'.2]; rfl

theorem admitLoop_spec (k : Nat) (cs : List (Int × Nat)) (ps : List Bool) :
    ∃ j, j ≤ k ∧ admitLoop k cs ps = cs.take j ∧ ∀ i, i < j → ∀ b, ps[i]? = some b → b = true := by
  induction k generalizing cs ps with
  | zero => exact ⟨0, Nat.le_refl _, by simp [admitLoop], fun _ h => absurd h (Nat.not_lt_zero _)⟩
  | succ k ih =>
    cases cs with
    | nil => exact ⟨0, Nat.zero_le _, by simp [admitLoop], fun _ h => absurd h (Nat.not_lt_zero _)⟩
    | cons c cs =>
      match ps with
      | [] =>
        obtain ⟨j, hj, e, _⟩ := ih cs []
        exact ⟨j + 1, by omega, by simp [admitLoop, e], fun i _ b hb => by simp at hb⟩
      | false :: ps =>
        exact ⟨0, Nat.zero_le _, by simp [admitLoop], fun _ h => absurd h (Nat.not_lt_zero _)⟩
      | true :: ps =>
        obtain ⟨j, hj, e, hall⟩ := ih cs ps
        refine ⟨j + 1, by omega, by simp [admitLoop, e], fun i hi b hb => ?_⟩
        cases i with
        | zero => simpa using hb.symm
        | succ i => exact hall i (by omega) b (by simpa using hb)

theorem admitLoop_nil_passes (k : Nat) (cs : List (Int × Nat)) : admitLoop k cs [] = cs.take k := by
  induction k generalizing cs with
  | zero => simp [admitLoop]
  | succ k ih => cases cs <;> simp [admitLoop, ih]

theorem admitted_spec (s : Sent) (cfg : Cfg) (tok : Nat) :
    ∃ j, j ≤ cfg.pruning ∧ admitted s cfg tok = (candidates s tok).take j ∧
      ∀ i, i < j → ∀ b, (s.passes.getD tok [])[i]? = some b → b = true :=
  admitLoop_spec cfg.pruning (candidates s tok) (s.passes.getD tok [])

theorem mem_admitted {tok : Nat} {p : Int × Nat} (h : p ∈ admitted s cfg tok) :
    p.2 < (s.tags.getD tok []).length ∧ p.1 = tagAt s tok p.2 := by
  obtain ⟨k, _, e, -⟩ := admitted_spec s cfg tok
  rw [e] at h
  exact mem_candidates (List.mem_of_mem_take h)

theorem admitted_pairwise (s : Sent) (cfg : Cfg) (tok : Nat) :
    (admitted s cfg tok).Pairwise (fun a b => a.2 ≠ b.2) := by
  obtain ⟨k, _, e, -⟩ := admitted_spec s cfg tok
  rw [e]
  have hnd := (candidates_map_snd_perm s tok).nodup_iff.2 (List.nodup_range' ..)
  exact (List.pairwise_map.1 hnd).sublist (List.take_sublist _ _)

theorem admitted_row {tok : Nat} {p : Int × Nat} (h : p ∈ admitted s cfg tok) :
    ∃ row ∈ s.tags, p.2 < row.length := by
  have hlt := (mem_admitted h).1
  rw [List.getD_eq_getElem?_getD] at hlt
  cases hr : s.tags[tok]? with
  | none => rw [hr] at hlt; exact absurd hlt (Nat.not_lt_zero _)
  | some row => rw [hr] at hlt; exact ⟨row, List.mem_of_getElem? hr, hlt⟩

theorem admitted_col_lt {tok n : Nat} {p : Int × Nat} (h : p ∈ admitted s cfg tok)
    (ht : ∀ row ∈ s.tags, row.length ≤ n) : p.2 < n :=
  let ⟨row, hr, hlt⟩ := admitted_row h
  Nat.lt_of_lt_of_le hlt (ht row hr)

theorem dlen_pos (d : Deriv) : 0 < dlen d := by
  induction d with
  | leaf => simp [dlen]
  | un _ _ _ ih => simpa [dlen] using ih
  | bin _ _ _ _ _ ihl ihr => simp only [dlen]; omega

def inScore (s : Sent) (cfg : Cfg) (d : Deriv) : Int :=
  tagSum s d + depSum s d - cfg.penalty * (nUnary d)

theorem inScore_leaf (s : Sent) (cfg : Cfg) (t c : Nat) : inScore s cfg (.leaf t c) = tagAt s t c := by
  simp [inScore, tagSum, depSum, nUnary]

theorem inScore_un (s : Sent) (cfg : Cfg) (c rid : Nat) (d : Deriv) :
    inScore s cfg (.un c rid d) = inScore s cfg d - cfg.penalty := by
  simp only [inScore, tagSum, depSum, nUnary, Int.natCast_add, Int.mul_add, Int.natCast_one,
    Int.mul_one]
  omega

theorem inScore_bin (s : Sent) (cfg : Cfg) (c rid : Nat) (hl : Bool) (l r : Deriv) :
    inScore s cfg (.bin c rid hl l r) = inScore s cfg l + inScore s cfg r +
      (if hl then depAt s (dhead r) (dhead l + 1) else depAt s (dhead l) (dhead r + 1)) := by
  simp only [inScore, tagSum, depSum, nUnary, Int.natCast_add, Int.mul_add]
  generalize (if hl = true then _ else _ : Int) = x
  omega

theorem modelScore_eq (s : Sent) (cfg : Cfg) (d : Deriv) :
    modelScore s cfg d = inScore s cfg d + depAt s (dhead d) 0 := by
  simp only [modelScore, inScore]; omega

theorem Licensed.span {d : Deriv} (h : Licensed g s cfg d) :
    dstart d ≤ dhead d ∧ dhead d < dstart d + dlen d ∧ dstart d + dlen d ≤ s.n := by
  induction h with
  | leaf t c sc ht _ => simp only [dstart, dhead, dlen]; omega
  | un c rid d _ _ _ ih => simpa only [dstart, dhead, dlen] using ih
  | bin c rid hl l r _ _ hadj _ ihl ihr =>
    simp only [dstop] at hadj
    simp only [dstart, dhead, dlen]
    cases hl <;> simp only [if_true, if_false, Bool.false_eq_true] <;> omega

theorem Licensed.head_lt {d : Deriv} (h : Licensed g s cfg d) :
    dhead d < s.n := Nat.lt_of_lt_of_le h.span.2.1 h.span.2.2

theorem Licensed.leafToks_eq {d : Deriv}
    (h : Licensed g s cfg d) : leafToks d = List.range' (dstart d) (dlen d) := by
  induction h with
  | leaf t c sc ht _ => rfl
  | un c rid d _ _ _ ih => simpa only [leafToks, dstart, dlen] using ih
  | bin c rid hl l r _ _ hadj _ ihl ihr =>
    simp only [dstop] at hadj
    simp only [leafToks, dstart, dlen, ihl, ihr, ← hadj, List.range'_append_1]

theorem LicensedRoot.leafToks_eq {d : Deriv}
    (h : LicensedRoot g s cfg d) : leafToks d = List.range s.n := by
  obtain ⟨hl, h0, hn, _⟩ := h
  rw [hl.leafToks_eq, h0, hn, List.range_eq_range']

theorem Licensed.leafCats_admitted {d : Deriv}
    (h : Licensed g s cfg d) : ∀ tc ∈ leafCats d, ∃ sc, (sc, tc.2) ∈ admitted s cfg tc.1 := by
  induction h with
  | leaf t c sc ht hm =>
    intro tc htc
    simp only [leafCats, List.mem_singleton] at htc
    subst htc; exact ⟨sc, hm⟩
  | un c rid d _ _ _ ih => simpa only [leafCats] using ih
  | bin c rid hl l r _ _ hadj _ ihl ihr =>
    intro tc htc
    simp only [leafCats, List.mem_append] at htc
    exact htc.elim (ihl tc) (ihr tc)

def slack (s : Sent) (cfg : Cfg) (d : Deriv) : Int :=
  pre s (dstop d) - pre s (dstart d) - bestDep s (dhead d) - inScore s cfg d

theorem slack_un (s : Sent) (cfg : Cfg) (c rid : Nat) (d : Deriv) :
    slack s cfg (.un c rid d) = slack s cfg d + cfg.penalty := by
  simp only [slack, inScore_un, dstop, dstart, dlen, dhead]
  omega

theorem slack_bin_ge {c rid : Nat} {hl : Bool} {l r : Deriv}
    (hs : SentOK s) (h : Licensed g s cfg (.bin c rid hl l r)) :
    slack s cfg l + slack s cfg r ≤ slack s cfg (.bin c rid hl l r) := by
  cases h with
  | bin _ _ _ _ _ hl' hr' hadj _ =>
    have e : dstop (.bin c rid hl l r) = dstop r := by
      simp only [dstop, dstart, dlen] at hadj ⊢; omega
    simp only [slack, e, hadj, inScore_bin, dstart, dhead]
    cases hl with
    | true =>
      have hd := depAt_le_bestDep hs (dhead l + 1) hr'.head_lt hl'.head_lt
      simp only [if_true]
      omega
    | false =>
      have hd := depAt_le_bestDep hs (dhead r + 1) hl'.head_lt hr'.head_lt
      simp only [if_false, Bool.false_eq_true]
      omega

theorem slack_nonneg {d : Deriv} (hs : SentOK s)
    (hp : 0 ≤ cfg.penalty) (h : Licensed g s cfg d) : 0 ≤ slack s cfg d := by
  induction h with
  | leaf t c sc ht hm =>
    have h1 : tagAt s t c ≤ bestTag s t := getI_le_rowMax (mem_admitted hm).1
    simp only [slack, pre, inScore_leaf, dstop, dstart, dlen, dhead, sumTo_succ]
    omega
  | un c rid d _ _ _ ih => rw [slack_un]; omega
  | bin c rid hl l r hl' hr' hadj hr ihl ihr =>
    have := slack_bin_ge hs (Licensed.bin c rid hl l r hl' hr' hadj hr)
    omega

/-- the priority that a non-final item carrying `d` has (`NonFinOK.prio_eq_Pd`): the inside score
    of `d` plus the outside estimate of its span and head -/
def Pd (s : Sent) (cfg : Cfg) (d : Deriv) : Int :=
  inScore s cfg d + binOut s (dstart d) (dstart d + dlen d) (dhead d)

theorem Pd_eq_slack {d : Deriv} (h : Licensed g s cfg d) :
    Pd s cfg d = pre s s.n - slack s cfg d := by
  rw [Pd, binOut_eq s _ (Nat.lt_add_of_pos_right (dlen_pos d)) h.span.2.2, slack, dstop]
  omega

theorem Pd_un_le (hp : 0 ≤ cfg.penalty) (c rid : Nat) (d : Deriv) :
    Pd s cfg (.un c rid d) ≤ Pd s cfg d := by
  simp only [Pd, inScore_un, dstart, dlen, dhead]
  omega

/-- a binary node is bounded by both of its children: the slack of the other child pays for the
    part of the outside estimate that is lost -/
theorem Pd_bin_le (hs : SentOK s) (hp : 0 ≤ cfg.penalty)
    {c rid : Nat} {hl : Bool} {l r : Deriv} (h : Licensed g s cfg (.bin c rid hl l r)) :
    Pd s cfg (.bin c rid hl l r) ≤ Pd s cfg l ∧ Pd s cfg (.bin c rid hl l r) ≤ Pd s cfg r := by
  have hge := slack_bin_ge hs h
  rw [Pd_eq_slack h]
  cases h with
  | bin _ _ _ _ _ hl' hr' _ _ =>
    have := slack_nonneg hs hp hl'
    have := slack_nonneg hs hp hr'
    rw [Pd_eq_slack hl', Pd_eq_slack hr']
    omega

theorem modelScore_le_Pd {d : Deriv} (hs : SentOK s)
    (h : LicensedRoot g s cfg d) : modelScore s cfg d ≤ Pd s cfg d := by
  obtain ⟨hl, h0, hn, _⟩ := h
  have hd := depAt_le_bestDep hs 0 hl.head_lt (Nat.zero_le _)
  rw [Pd_eq_slack hl, modelScore_eq, slack, dstop, h0, hn, Nat.zero_add]
  simp only [pre, sumTo]
  omega

/-- the last three fields follow from the others (`Licensed.span`, see `NonFinOK.mk'`); they are
    fields so that users have the bounds on the item's own numbers -/
structure NonFinOK (g : Grammar) (s : Sent) (cfg : Cfg) (it : Item) : Prop where
  lic : Licensed g s cfg it.d
  cat : it.cat = dcat it.d
  inS : it.inS = inScore s cfg it.d
  start : it.start = dstart it.d
  len : it.len = dlen it.d
  head : it.head = dhead it.d
  outS : it.outS = binOut s it.start (it.start + it.len) it.head
  stop_le : it.start + it.len ≤ s.n
  head_ge : it.start ≤ it.head
  head_lt : it.head < it.start + it.len

structure FinOK (g : Grammar) (s : Sent) (cfg : Cfg) (it : Item) : Prop where
  lic : LicensedRoot g s cfg it.d
  cat : it.cat = dcat it.d
  inS : it.inS = modelScore s cfg it.d
  outS : it.outS = 0
  start : it.start = dstart it.d
  len : it.len = dlen it.d
  head : it.head = dhead it.d

/-- what holds of an item of unknown kind (agenda, trace); chart and goal hold the conjunctions
    `fin = false ∧ NonFinOK` and `fin = true ∧ FinOK`, which is also what the lemmas about the items
    that `expand` builds conclude -/
def ItemOK (g : Grammar) (s : Sent) (cfg : Cfg) (it : Item) : Prop :=
  (it.fin = false → NonFinOK g s cfg it) ∧ (it.fin = true → FinOK g s cfg it)

theorem ItemOK.of_nonFin {it : Item}
    (h : it.fin = false ∧ NonFinOK g s cfg it) : ItemOK g s cfg it :=
  ⟨fun _ => h.2, fun h' => by rw [h.1] at h'; cases h'⟩

theorem ItemOK.of_fin {it : Item} (hf : it.fin = true) (h : FinOK g s cfg it) : ItemOK g s cfg it :=
  ⟨fun h' => (by rw [hf] at h'; cases h'), fun _ => h⟩

theorem NonFinOK.len_pos {it : Item} (h : NonFinOK g s cfg it) :
    0 < it.len := by rw [h.len]; exact dlen_pos _

theorem NonFinOK.prio_eq_Pd {g : Grammar} {s : Sent} {cfg : Cfg} {it : Item}
    (h : NonFinOK g s cfg it) : it.prio = Pd s cfg it.d := by
  rw [Item.prio, Pd, h.inS, h.outS, h.start, h.len, h.head]

theorem FinOK.prio_eq {it : Item} (h : FinOK g s cfg it) : it.prio = modelScore s cfg it.d := by
  rw [Item.prio, h.inS, h.outS]; omega

theorem NonFinOK.mk' {it : Item}
    (lic : Licensed g s cfg it.d) (cat : it.cat = dcat it.d) (inS : it.inS = inScore s cfg it.d)
    (start : it.start = dstart it.d) (len : it.len = dlen it.d) (head : it.head = dhead it.d)
    (outS : it.outS = binOut s it.start (it.start + it.len) it.head) : NonFinOK g s cfg it := by
  have sp := lic.span
  rw [← start, ← len, ← head] at sp
  exact ⟨lic, cat, inS, start, len, head, outS, sp.2.2, sp.1, sp.2.1⟩

theorem mem_leafItems {it : Item} (h : it ∈ leafItems s cfg) :
    ∃ tok c, tok < s.n ∧ c ∈ admitted s cfg tok ∧ it = leafItem s tok c := by
  simp only [leafItems, List.mem_flatMap, List.mem_range, List.mem_map] at h
  obtain ⟨tok, ht, c, hc, e⟩ := h
  exact ⟨tok, c, ht, hc, e.symm⟩

theorem leafItem_mem {t : Nat} {p : Int × Nat} (ht : t < s.n)
    (hm : p ∈ admitted s cfg t) : leafItem s t p ∈ leafItems s cfg := by
  simp only [leafItems, List.mem_flatMap, List.mem_range, List.mem_map]
  exact ⟨t, ht, p, hm, rfl⟩

theorem leafItem_ok {tok : Nat} {c : Int × Nat}
    (ht : tok < s.n) (hc : c ∈ admitted s cfg tok) : NonFinOK g s cfg (leafItem s tok c) := by
  refine NonFinOK.mk' (Licensed.leaf tok c.2 c.1 ht hc) rfl ?_ rfl rfl rfl ?_
  · simp only [leafItem, inScore_leaf]; exact (mem_admitted hc).2
  · exact leafOut_eq_binOut s ht

theorem leafItems_ok {it : Item} (h : it ∈ leafItems s cfg) :
    it.fin = false ∧ NonFinOK g s cfg it := by
  obtain ⟨tok, c, ht, hc, rfl⟩ := mem_leafItems h
  exact ⟨rfl, leafItem_ok ht hc⟩

/-- the body of the `map` in `Search.unaryItems`, named -/
def unItem (cfg : Cfg) (it : Item) (c rid : Nat) : Item :=
  { it with cat := c, inS := it.inS - cfg.penalty, rule := rid, d := .un c rid it.d }

/-- the body of the `map` in `Search.binaryItems`, named -/
def binItem (s : Sent) (l r : Item) (rule : Rule) (rid : Nat) : Item :=
  let head := if rule.headLeft then l.head else r.head
  let child := if rule.headLeft then r.head else l.head
  { fin := false, cat := rule.cat, inS := l.inS + r.inS + depAt s child (head + 1),
    outS := binOut s l.start (l.start + (l.len + r.len)) head,
    start := l.start, len := l.len + r.len, head := head, rule := rid,
    d := .bin rule.cat rid rule.headLeft l.d r.d }

theorem mem_unaryItems {it x : Item} (h : x ∈ unaryItems g cfg it) :
    ∃ c rid, (g.un it.cat)[rid]? = some c ∧ x = unItem cfg it c rid := by
  obtain ⟨⟨c, rid⟩, hm, e⟩ := List.mem_map.1 h
  exact ⟨c, rid, List.mem_zipIdx_iff_getElem?.1 hm, e.symm⟩

theorem unItem_mem {it : Item} {c rid : Nat}
    (h : (g.un it.cat)[rid]? = some c) : unItem cfg it c rid ∈ unaryItems g cfg it :=
  List.mem_map.2 ⟨(c, rid), List.mem_zipIdx_iff_getElem?.2 h, rfl⟩

theorem mem_binaryItems {l r x : Item} (h : x ∈ binaryItems g s l r) :
    ∃ rule rid, (g.bin l.cat r.cat)[rid]? = some rule ∧ x = binItem s l r rule rid := by
  obtain ⟨⟨rule, rid⟩, hm, e⟩ := List.mem_map.1 h
  exact ⟨rule, rid, List.mem_zipIdx_iff_getElem?.1 hm, e.symm⟩

theorem binItem_mem (s : Sent) {l r : Item} {rule : Rule} {rid : Nat}
    (h : (g.bin l.cat r.cat)[rid]? = some rule) : binItem s l r rule rid ∈ binaryItems g s l r :=
  List.mem_map.2 ⟨(rule, rid), List.mem_zipIdx_iff_getElem?.2 h, rfl⟩

theorem unaryItems_ok {it x : Item} (h : NonFinOK g s cfg it)
    (hf : it.fin = false) (hu : s.n = 1 ∨ it.len ≠ s.n) (hx : x ∈ unaryItems g cfg it) :
    x.fin = false ∧ NonFinOK g s cfg x := by
  obtain ⟨c, rid, hr, rfl⟩ := mem_unaryItems hx
  refine ⟨hf, NonFinOK.mk' ?_ rfl ?_ h.start h.len h.head h.outS⟩
  · exact Licensed.un c rid it.d h.lic (by rw [← h.cat]; exact hr) (by rw [← h.len]; exact hu)
  · simp only [unItem, inScore_un, h.inS]

theorem binaryItems_ok {l r x : Item} (hl : NonFinOK g s cfg l)
    (hr : NonFinOK g s cfg r) (hadj : r.start = l.start + l.len) (hx : x ∈ binaryItems g s l r) :
    x.fin = false ∧ NonFinOK g s cfg x := by
  obtain ⟨rule, rid, hrule, rfl⟩ := mem_binaryItems hx
  refine ⟨rfl, NonFinOK.mk' ?_ rfl ?_ hl.start ?_ ?_ rfl⟩
  · refine Licensed.bin _ _ _ _ _ hl.lic hr.lic ?_ ?_
    · rw [dstop, ← hl.start, ← hl.len, ← hr.start]; exact hadj.symm
    · rw [← hl.cat, ← hr.cat, hrule]
  · simp only [binItem, inScore_bin, hl.inS, hr.inS, hl.head, hr.head]
    cases rule.headLeft <;> simp
  · simp only [binItem, dlen, hl.len, hr.len]
  · simp only [binItem, dhead, hl.head, hr.head]

theorem finItem_ok {it : Item} (h : NonFinOK g s cfg it)
    (hlen : it.len = s.n) (hroot : s.roots.elem it.cat = true) : FinOK g s cfg (finItem s it) := by
  have hst := h.stop_le
  refine ⟨⟨h.lic, ?_, ?_, ?_⟩, h.cat, ?_, rfl, h.start, h.len, h.head⟩
  · show dstart it.d = 0
    rw [← h.start]; omega
  · show dlen it.d = s.n
    rw [← h.len]; exact hlen
  · show dcat it.d ∈ s.roots
    rw [← h.cat]; simpa using hroot
  · simp only [finItem, modelScore_eq, h.inS, h.head]

theorem firstSeen_foldl_mem (keys acc : List Nat) (k : Nat) :
    k ∈ keys.foldl (fun acc k => if acc.elem k then acc else acc ++ [k]) acc ↔ k ∈ acc ∨ k ∈ keys := by
  induction keys generalizing acc with
  | nil => simp
  | cons x xs ih =>
    rw [List.foldl_cons, ih]
    by_cases hx : x ∈ acc
    · have : k = x → k ∈ acc := fun e => e ▸ hx
      simp only [List.elem_eq_mem, hx, decide_true, if_true, List.mem_cons, ← or_assoc,
        or_iff_left_of_imp this]
    · simp [hx, or_assoc]

theorem firstSeen_foldl_nodup (keys acc : List Nat) (h : acc.Nodup) :
    (keys.foldl (fun acc k => if acc.elem k then acc else acc ++ [k]) acc).Nodup := by
  induction keys generalizing acc with
  | nil => exact h
  | cons x xs ih =>
    rw [List.foldl_cons]
    apply ih
    by_cases hx : x ∈ acc
    · simpa only [List.elem_eq_mem, hx, decide_true, if_true] using h
    · simp only [List.elem_eq_mem, hx, decide_false, Bool.false_eq_true, if_false]
      refine List.nodup_append.2 ⟨h, List.pairwise_singleton _ _, ?_⟩
      intro a ha b hb e
      rw [List.mem_singleton] at hb
      subst hb; subst e
      exact hx ha

theorem mem_firstSeen {keys : List Nat} {k : Nat} : k ∈ firstSeen keys ↔ k ∈ keys := by
  rw [firstSeen, firstSeen_foldl_mem]; simp

theorem neighbours_perm (chart : List Item) (p : Item → Bool) :
    (neighbours chart p).Perm (chart.filter p) := by
  refine flatMap_filter_key_perm (fun o : Item => o.len) _ _ (firstSeen_foldl_nodup _ [] List.nodup_nil) ?_
  intro x hx
  rw [mem_firstSeen, List.map_reverse, List.mem_reverse]
  exact List.mem_map.2 ⟨x, hx, rfl⟩

theorem neighbours_map (f : Item → Item) (hlen : ∀ x, (f x).len = x.len)
    (p p' : Item → Bool) (hp : ∀ o, p' (f o) = p o) (chart : List Item) :
    neighbours (chart.map f) p' = (neighbours chart p).map f := by
  have hc : ∀ (q q' : Item → Bool), (∀ o, q' (f o) = q o) → ∀ l : List Item,
      (l.map f).filter q' = (l.filter q).map f :=
    fun q q' hq l => by rw [List.filter_map, show q' ∘ f = q from funext hq]
  unfold neighbours
  simp only [hc p p' hp, ← List.map_reverse, List.map_map, List.map_flatMap]
  rw [show (·.len) ∘ f = (·.len) from funext hlen]
  exact flatMap_congr fun k _ => hc _ _ (fun o => by rw [hlen]) _

theorem mem_neighbours {chart : List Item} {p : Item → Bool} {o : Item} :
    o ∈ neighbours chart p ↔ o ∈ chart ∧ p o = true := by
  rw [(neighbours_perm chart p).mem_iff, List.mem_filter]

theorem mem_expand {chart : List Item} {it x : Item} :
    x ∈ expand g s cfg chart it ↔
      (it.len = s.n ∧ s.roots.elem it.cat = true ∧ x = finItem s it) ∨
      ((s.n = 1 ∨ it.len ≠ s.n) ∧ x ∈ unaryItems g cfg it) ∨
      (∃ o ∈ chart, o.start = it.stop ∧ x ∈ binaryItems g s it o) ∨
      (∃ o ∈ chart, o.stop = it.start ∧ x ∈ binaryItems g s o it) := by
  simp only [expand, List.mem_append, List.mem_flatMap, mem_neighbours, beq_iff_eq,
    List.mem_ite_nil_right, List.mem_singleton, or_assoc, and_assoc]

theorem expand_ok {chart : List Item} {it x : Item}
    (h : NonFinOK g s cfg it) (hf : it.fin = false) (hc : ∀ o ∈ chart, NonFinOK g s cfg o)
    (hx : x ∈ expand g s cfg chart it) : ItemOK g s cfg x := by
  rcases mem_expand.1 hx with ⟨hlen, hroot, rfl⟩ | ⟨hu, hx⟩ | ⟨o, ho, hadj, hx⟩ | ⟨o, ho, hadj, hx⟩
  · exact .of_fin rfl (finItem_ok h hlen hroot)
  · exact .of_nonFin (unaryItems_ok h hf hu hx)
  · exact .of_nonFin (binaryItems_ok h (hc o ho) hadj hx)
  · exact .of_nonFin (binaryItems_ok (hc o ho) h hadj.symm hx)

theorem expand_prio_le {chart : List Item} {it x : Item}
    (hs : SentOK s) (hp : 0 ≤ cfg.penalty) (h : NonFinOK g s cfg it)
    (hc : ∀ o ∈ chart, NonFinOK g s cfg o) (hx : x ∈ expand g s cfg chart it) :
    x.prio ≤ it.prio := by
  rcases mem_expand.1 hx with ⟨hlen, hroot, rfl⟩ | ⟨-, hx⟩ | ⟨o, ho, hadj, hx⟩ | ⟨o, ho, hadj, hx⟩
  · have hfin := finItem_ok h hlen hroot
    rw [hfin.prio_eq, h.prio_eq_Pd]
    exact modelScore_le_Pd hs hfin.lic
  · obtain ⟨c, rid, -, rfl⟩ := mem_unaryItems hx
    simp only [Item.prio, unItem]
    omega
  · have hxok := (binaryItems_ok h (hc o ho) hadj hx).2
    obtain ⟨rule, rid, -, rfl⟩ := mem_binaryItems hx
    rw [hxok.prio_eq_Pd, h.prio_eq_Pd]
    exact (Pd_bin_le hs hp hxok.lic).1
  · have hxok := (binaryItems_ok (hc o ho) h hadj.symm hx).2
    obtain ⟨rule, rid, -, rfl⟩ := mem_binaryItems hx
    rw [hxok.prio_eq_Pd, h.prio_eq_Pd]
    exact (Pd_bin_le hs hp hxok.lic).2

theorem PickOK.eq_nil (hp : PickOK pick) {l : List Item} (h : pick.pop l = none) : l = [] := by
  cases l with
  | nil => rfl
  | cons x xs =>
    obtain ⟨it, rest, e, _⟩ := hp.2.1 (x :: xs) (List.cons_ne_nil x xs)
    rw [e] at h; cases h

theorem PickOK.spec (hp : PickOK pick) {l : List Item} {it : Item} {rest : List Item}
    (h : pick.pop l = some (it, rest)) : (it :: rest).Perm l ∧ ∀ o ∈ l, o.prio ≤ it.prio := by
  obtain ⟨it', rest', e, hspec⟩ := hp.2.1 l (by rintro rfl; rw [hp.1] at h; cases h)
  rw [e] at h
  cases h
  exact hspec

theorem PickOK.pop_perm (hp : PickOK pick) {l : List Item} {it : Item} {rest : List Item}
    (h : pick.pop l = some (it, rest)) : (it :: rest).Perm l := (hp.spec h).1

theorem PickOK.mem_of_pop (hp : PickOK pick) {l : List Item} {it : Item} {rest : List Item}
    (h : pick.pop l = some (it, rest)) : it ∈ l :=
  (hp.pop_perm h).mem_iff.1 List.mem_cons_self

theorem PickOK.push_perm (hp : PickOK pick) (new old : List Item) :
    (pick.push new old).Perm (new ++ old) := hp.2.2 new old

theorem PickOK.mem_push (hp : PickOK pick) {new old : List Item} {x : Item} :
    x ∈ pick.push new old ↔ x ∈ new ∨ x ∈ old := by
  rw [(hp.push_perm new old).mem_iff, List.mem_append]

theorem PickOK.mem_push_nil (hp : PickOK pick) {new : List Item} {x : Item} :
    x ∈ pick.push new [] ↔ x ∈ new := by
  rw [hp.mem_push]; simp

def popSt (st : St) (it : Item) (rest : List Item) : St :=
  { st with agenda := rest, popped := it :: st.popped, steps := st.steps + 1,
            tie := st.tie || rest.any fun o => o.prio == it.prio }

def pushSt (pick : Pick) (new : List Item) (st : St) (it : Item) (rest : List Item) : St :=
  { popSt st it rest with chart := it :: st.chart, agenda := pick.push new rest }

/-- one iteration of the agenda loop with the items pushed for a newly closed item as a parameter:
    `Search.stepWith` pushes `expand g s cfg st.chart it`, the lazy `Lazy.stepL` what `expandL`
    returns -/
def stepPush (pick : Pick) (cfg : Cfg) (new : Item → List Item) (st : St) : Option St :=
  if cfg.nbest ≤ st.goal.length then none else
  match pick.pop st.agenda with
  | none => none
  | some (it, rest) =>
    if it.fin then
      if cfg.nbest ≤ 1 ∧ inGoal st.goal it then some (popSt st it rest)
      else some { popSt st it rest with goal := it :: st.goal }
    else if cfg.nbest ≤ 1 ∧ inChart st.chart it then some (popSt st it rest)
    else some (pushSt pick (new it) st it rest)

theorem stepWith_eq (pick : Pick) (g : Grammar) (s : Sent) (cfg : Cfg) (st : St) :
    stepWith pick g s cfg st = stepPush pick cfg (expand g s cfg st.chart) st := rfl

/-- the step at `st` pops `it`, leaving `rest`, and closes it: puts it into the chart and pushes its
    expansions.  The third case of `stepPush_cases`, and the only one in which `new` is consulted -/
structure Closes (pick : Pick) (cfg : Cfg) (st : St) (it : Item) (rest : List Item) : Prop where
  room : st.goal.length < cfg.nbest
  pop : pick.pop st.agenda = some (it, rest)
  nonfin : it.fin = false
  fresh : ¬ (cfg.nbest ≤ 1 ∧ inChart st.chart it = true)

theorem stepPush_cases {new : Item → List Item} {st st' : St}
    (h : stepPush pick cfg new st = some st') :
    st.goal.length < cfg.nbest ∧ ∃ it rest, pick.pop st.agenda = some (it, rest) ∧
      ( (cfg.nbest ≤ 1 ∧ (if it.fin then inGoal st.goal it else inChart st.chart it) = true ∧
          st' = popSt st it rest)
      ∨ (it.fin = true ∧ st' = { popSt st it rest with goal := it :: st.goal })
      ∨ (Closes pick cfg st it rest ∧ st' = pushSt pick (new it) st it rest) ) := by
  unfold stepPush at h
  split at h
  · cases h
  rename_i hlen
  split at h
  · cases h
  rename_i it rest hpick
  refine ⟨by omega, it, rest, hpick, ?_⟩
  split at h
  · rename_i hf
    rw [if_pos hf]
    split at h <;> rename_i hc <;> cases h
    · exact .inl ⟨hc.1, hc.2, rfl⟩
    · exact .inr (.inl ⟨hf, rfl⟩)
  · rename_i hf
    rw [if_neg hf]
    split at h <;> rename_i hc <;> cases h
    · exact .inl ⟨hc.1, hc.2, rfl⟩
    · exact .inr (.inr ⟨⟨by omega, hpick, Bool.eq_false_iff.2 hf, hc⟩, rfl⟩)

theorem stepPush_none_iff {new : Item → List Item} {st : St} :
    stepPush pick cfg new st = none ↔ cfg.nbest ≤ st.goal.length ∨ pick.pop st.agenda = none := by
  unfold stepPush
  split
  · simp only [true_or, *]
  · rename_i hlen
    split
    · simp only [or_true, *]
    · rename_i it rest hpick
      simp only [hlen, hpick, false_or, reduceCtorEq, iff_false]
      split <;> split <;> simp only [reduceCtorEq, not_false_eq_true]

theorem stepPush_congr {new new' : Item → List Item} {st : St}
    (h : ∀ it rest, Closes pick cfg st it rest → new it = new' it) :
    stepPush pick cfg new st = stepPush pick cfg new' st := by
  unfold stepPush
  -- the guards are rewritten on both sides by hand: `split` four times is much slower
  by_cases hlen : cfg.nbest ≤ st.goal.length
  · rw [if_pos hlen, if_pos hlen]
  rw [if_neg hlen, if_neg hlen]
  cases hpick : pick.pop st.agenda with
  | none => rfl
  | some p =>
    dsimp only
    by_cases hf : p.1.fin = true
    · rw [if_pos hf, if_pos hf]
    rw [if_neg hf, if_neg hf]
    by_cases hc : cfg.nbest ≤ 1 ∧ inChart st.chart p.1 = true
    · rw [if_pos hc, if_pos hc]
    rw [if_neg hc, if_neg hc, h p.1 p.2 ⟨by omega, hpick, Bool.eq_false_iff.2 hf, hc⟩]

theorem stepPush_forall {P : Item → Prop} {new : Item → List Item} {st st' : St} (hp : PickOK pick)
    (hs : stepPush pick cfg new st = some st')
    (hag : ∀ x ∈ st.agenda, P x) (hch : ∀ x ∈ st.chart, P x)
    (hnew : ∀ it rest, Closes pick cfg st it rest → ∀ x ∈ new it, P x) :
    (∀ x ∈ st'.agenda, P x) ∧ (∀ x ∈ st'.chart, P x) ∧
      ((∀ x ∈ st.goal, P x) → ∀ x ∈ st'.goal, P x) := by
  obtain ⟨-, it, rest, hpick, hcases⟩ := stepPush_cases hs
  obtain ⟨hit, hrest⟩ :=
    List.forall_mem_cons.1 fun x hx => hag x ((hp.pop_perm hpick).mem_iff.1 hx)
  rcases hcases with ⟨-, -, rfl⟩ | ⟨-, rfl⟩ | ⟨hcl, rfl⟩
  · exact ⟨hrest, hch, id⟩
  · exact ⟨hrest, hch, fun hgo => List.forall_mem_cons.2 ⟨hit, hgo⟩⟩
  · exact ⟨fun x hx => (hp.mem_push.1 hx).elim (hnew it rest hcl x) (hrest x),
      List.forall_mem_cons.2 ⟨hit, hch⟩, id⟩

theorem stepWith_cases {st st' : St}
    (h : stepWith pick g s cfg st = some st') :
    st.goal.length < cfg.nbest ∧ ∃ it rest, pick.pop st.agenda = some (it, rest) ∧
      ( (cfg.nbest ≤ 1 ∧ (if it.fin then inGoal st.goal it else inChart st.chart it) = true ∧
          st' = popSt st it rest)
      ∨ (it.fin = true ∧ st' = { popSt st it rest with goal := it :: st.goal })
      ∨ (Closes pick cfg st it rest ∧ st' = pushSt pick (expand g s cfg st.chart it) st it rest) ) :=
  stepPush_cases h

theorem stepWith_none_iff {st : St} :
    stepWith pick g s cfg st = none ↔ cfg.nbest ≤ st.goal.length ∨ pick.pop st.agenda = none :=
  stepPush_none_iff (new := expand g s cfg st.chart)

theorem stepWith_trace {st st' : St}
    (h : stepWith pick g s cfg st = some st') :
    ∃ it rest, pick.pop st.agenda = some (it, rest) ∧ st'.popped = it :: st.popped ∧
      st'.steps = st.steps + 1 ∧ (st'.chart = st.chart ∨ st'.chart = it :: st.chart) := by
  obtain ⟨-, it, rest, hpop, hc⟩ := stepWith_cases h
  refine ⟨it, rest, hpop, ?_⟩
  rcases hc with ⟨-, -, rfl⟩ | ⟨-, rfl⟩ | ⟨-, rfl⟩
  · exact ⟨rfl, rfl, .inl rfl⟩
  · exact ⟨rfl, rfl, .inl rfl⟩
  · exact ⟨rfl, rfl, .inr rfl⟩

theorem loop_succ (pick : Pick) (g : Grammar) (s : Sent) (cfg : Cfg) (k : Nat) (st : St) :
    loop pick g s cfg (k + 1) st =
      match stepWith pick g s cfg st with
      | none => st
      | some st' => loop pick g s cfg k st' := rfl

/-- abstract in the loop `run`, given by its three equations, so that it serves `Search.loop`
    (`loop_inv`) and `Lazy.loopL` -/
theorem fuelLoop_inv {α : Type} {step : α → Option α} {run : Nat → α → α}
    (h0 : ∀ a, run 0 a = a)
    (hnone : ∀ k a, step a = none → run (k + 1) a = a)
    (hsome : ∀ k a a', step a = some a' → run (k + 1) a = run k a')
    (P : α → Prop) (hstep : ∀ a a', P a → step a = some a' → P a') :
    ∀ (fuel : Nat) (a : α), P a → P (run fuel a) := by
  intro fuel
  induction fuel with
  | zero => intro a h; rw [h0]; exact h
  | succ fuel ih =>
    intro a h
    cases hs : step a with
    | none => rw [hnone fuel a hs]; exact h
    | some a' => rw [hsome fuel a a' hs]; exact ih a' (hstep a a' h hs)

theorem loop_inv (P : St → Prop)
    (hstep : ∀ st st', P st → stepWith pick g s cfg st = some st' → P st') :
    ∀ (fuel : Nat) (st : St), P st → P (loop pick g s cfg fuel st) :=
  fuelLoop_inv (fun _ => rfl) (fun k st h => by rw [loop_succ, h])
    (fun k st st' h => by rw [loop_succ, h]) P hstep

/-- the two steps have to agree also in being `none`: two runs of which one stops earlier (another
    `nbest`, another `maxStep`) are not compared by this -/
theorem loop_map {pick' : Pick} {g' : Grammar} {s' : Sent} {cfg' : Cfg} (f : St → St) {fuel : Nat}
    {st : St}
    (h : ∀ j, j < fuel → stepWith pick' g' s' cfg' (f (loop pick g s cfg j st))
      = (stepWith pick g s cfg (loop pick g s cfg j st)).map f) :
    loop pick' g' s' cfg' fuel (f st) = f (loop pick g s cfg fuel st) := by
  induction fuel generalizing st with
  | zero => rfl
  | succ fuel ih =>
    have h0 : stepWith pick' g' s' cfg' (f st) = (stepWith pick g s cfg st).map f :=
      h 0 (Nat.succ_pos fuel)
    rw [loop_succ, loop_succ, h0]
    cases hs : stepWith pick g s cfg st with
    | none => rfl
    | some st' =>
      refine ih fun j hj => ?_
      have := h (j + 1) (Nat.succ_lt_succ hj)
      rwa [loop_succ, hs] at this

theorem loop_stuck_or_fuel (pick : Pick) (g : Grammar) (s : Sent) (cfg : Cfg) (fuel : Nat) (st : St) :
    stepWith pick g s cfg (loop pick g s cfg fuel st) = none ∨
      (loop pick g s cfg fuel st).steps = st.steps + fuel := by
  induction fuel generalizing st with
  | zero => exact Or.inr rfl
  | succ fuel ih =>
    rw [loop_succ]
    split
    · rename_i hs; exact Or.inl hs
    · rename_i st' hs
      obtain ⟨_, _, -, -, hsteps, -⟩ := stepWith_trace hs
      exact (ih st').imp_right fun h => by rw [h, hsteps]; omega

theorem loop_add (pick : Pick) (g : Grammar) (s : Sent) (cfg : Cfg) (a b : Nat) (st : St) :
    loop pick g s cfg (a + b) st = loop pick g s cfg b (loop pick g s cfg a st) := by
  induction a generalizing st with
  | zero => rw [Nat.zero_add]; rfl
  | succ a ih =>
    rw [Nat.succ_add, loop_succ, loop_succ]
    cases hs : stepWith pick g s cfg st with
    | none => cases b with
      | zero => rfl
      | succ b => rw [loop_succ, hs]
    | some st' => exact ih st'

theorem loop_popped_mono (pick : Pick) (g : Grammar) (s : Sent) (cfg : Cfg) (k : Nat) (st : St) :
    st.popped ⊆ (loop pick g s cfg k st).popped := by
  refine loop_inv (fun st' => st.popped ⊆ st'.popped) (fun st1 st2 hP hs => ?_) k st (fun _ h => h)
  obtain ⟨it, rest, -, hp, -⟩ := stepWith_trace hs
  rw [hp]
  exact List.subset_cons_of_subset it hP

/-- `StOK.chart_sub` without a hypothesis on the agenda -/
theorem loop_chart_sub_popped (pick : Pick) (g : Grammar) (s : Sent) (cfg : Cfg) (k : Nat) (st : St)
    (h : st.chart ⊆ st.popped) :
    (loop pick g s cfg k st).chart ⊆ (loop pick g s cfg k st).popped := by
  refine loop_inv (fun st => st.chart ⊆ st.popped) (fun st st' hP hs => ?_) k st h
  obtain ⟨it, rest, -, hp, -, hc | hc⟩ := stepWith_trace hs <;> rw [hp, hc]
  · exact List.subset_cons_of_subset it hP
  · exact List.cons_subset_cons it hP

theorem sortDesc_spec (l : List Item) :
    (sortDesc l).Perm l ∧ (sortDesc l).Pairwise (fun a b => a.prio ≥ b.prio) :=
  foldr_insert_perm_sorted (insert_perm_sorted Item.prio insertDesc (fun o it => o.prio ≤ it.prio)
    (fun _ => rfl) (fun _ _ _ => rfl) (fun _ _ h => h) (fun _ _ h => by omega)) l

theorem sortDesc_perm {l : List Item} : (sortDesc l).Perm l := (sortDesc_spec l).1

theorem sortDesc_sorted (l : List Item) : (sortDesc l).Pairwise (fun a b => a.prio ≥ b.prio) :=
  (sortDesc_spec l).2

/-- `stateAt pick g s cfg cfg.maxStep` of `SearchLocalDefs` -/
abbrev finalSt (pick : Pick) (g : Grammar) (s : Sent) (cfg : Cfg) : St :=
  loop pick g s cfg cfg.maxStep (init pick s cfg)

theorem results_eq (pick : Pick) (g : Grammar) (s : Sent) (cfg : Cfg) :
    (runWith pick g s cfg).results = sortDesc (finalSt pick g s cfg).goal := rfl

theorem results_perm : (runWith pick g s cfg).results.Perm (finalSt pick g s cfg).goal := sortDesc_perm

theorem results_length_le (pick : Pick) (g : Grammar) (s : Sent) (cfg : Cfg) :
    (runWith pick g s cfg).results.length ≤ cfg.nbest := by
  rw [results_perm.length_eq]
  refine loop_inv (fun st => st.goal.length ≤ cfg.nbest) (fun st st' h hs => ?_) _ _ (Nat.zero_le _)
  obtain ⟨hlen, it, rest, -, hc⟩ := stepWith_cases hs
  rcases hc with ⟨-, -, rfl⟩ | ⟨-, rfl⟩ | ⟨-, rfl⟩
  · exact h
  · exact hlen
  · exact h

theorem final_stuck (hp : PickOK pick)
    (h : (runWith pick g s cfg).steps < cfg.maxStep) :
    cfg.nbest ≤ (finalSt pick g s cfg).goal.length ∨ (finalSt pick g s cfg).agenda = [] := by
  rcases loop_stuck_or_fuel pick g s cfg cfg.maxStep (init pick s cfg) with hstuck | hfuel
  · exact (stepWith_none_iff.1 hstuck).imp_right hp.eq_nil
  · have h0 : (init pick s cfg).steps = 0 := rfl
    have : (loop pick g s cfg cfg.maxStep (init pick s cfg)).steps < cfg.maxStep := h
    omega

structure StOK (g : Grammar) (s : Sent) (cfg : Cfg) (st : St) : Prop where
  agenda : ∀ it ∈ st.agenda, ItemOK g s cfg it
  chart : ∀ it ∈ st.chart, it.fin = false ∧ NonFinOK g s cfg it
  goal : ∀ it ∈ st.goal, it.fin = true ∧ FinOK g s cfg it
  popped : ∀ it ∈ st.popped, ItemOK g s cfg it
  chart_sub : ∀ it ∈ st.chart, it ∈ st.popped
  goal_sub : ∀ it ∈ st.goal, it ∈ st.popped
  goal_le : st.goal.length ≤ cfg.nbest
  steps_eq : st.steps = st.popped.length

theorem StOK.init (hp : PickOK pick) (g : Grammar) (s : Sent) (cfg : Cfg) :
    StOK g s cfg (init pick s cfg) where
  agenda := fun _ h => .of_nonFin (leafItems_ok (hp.mem_push_nil.1 h))
  chart := fun _ h => nomatch h
  goal := fun _ h => nomatch h
  popped := fun _ h => nomatch h
  chart_sub := fun _ h => nomatch h
  goal_sub := fun _ h => nomatch h
  goal_le := Nat.zero_le _
  steps_eq := rfl

theorem StOK.stepPush {new : Item → List Item} {st st' : St} (hp : PickOK pick) (h : StOK g s cfg st)
    (hnew : ∀ it rest, Closes pick cfg st it rest → ∀ x ∈ new it, x ∈ expand g s cfg st.chart it)
    (hs : stepPush pick cfg new st = some st') : StOK g s cfg st' := by
  obtain ⟨hlen, it, rest, hpick, hcases⟩ := stepPush_cases hs
  obtain ⟨hit, hrest⟩ :=
    List.forall_mem_cons.1 fun x hx => h.agenda x ((hp.pop_perm hpick).mem_iff.1 hx)
  have hpop : ∀ x ∈ it :: st.popped, ItemOK g s cfg x := List.forall_mem_cons.2 ⟨hit, h.popped⟩
  have hsteps : st.steps + 1 = (it :: st.popped).length := congrArg (· + 1) h.steps_eq
  have hcs : ∀ x ∈ st.chart, x ∈ it :: st.popped := List.subset_cons_of_subset it h.chart_sub
  have hgs : ∀ x ∈ st.goal, x ∈ it :: st.popped := List.subset_cons_of_subset it h.goal_sub
  rcases hcases with ⟨-, -, rfl⟩ | ⟨hf, rfl⟩ | ⟨hcl, rfl⟩
  · exact ⟨hrest, h.chart, h.goal, hpop, hcs, hgs, h.goal_le, hsteps⟩
  · exact ⟨hrest, h.chart, List.forall_mem_cons.2 ⟨⟨hf, hit.2 hf⟩, h.goal⟩, hpop, hcs,
      List.cons_subset_cons it h.goal_sub, hlen, hsteps⟩
  · have hf := hcl.nonfin
    refine ⟨fun x hx => ?_, List.forall_mem_cons.2 ⟨⟨hf, hit.1 hf⟩, h.chart⟩, h.goal, hpop,
      List.cons_subset_cons it h.chart_sub, hgs, h.goal_le, hsteps⟩
    exact (hp.mem_push.1 hx).elim
      (fun hx => expand_ok (hit.1 hf) hf (fun o ho => (h.chart o ho).2) (hnew it rest hcl x hx)) (hrest x)

theorem StOK.step {st st' : St}
    (hp : PickOK pick) (h : StOK g s cfg st) (hs : stepWith pick g s cfg st = some st') :
    StOK g s cfg st' :=
  h.stepPush hp (fun _ _ _ _ hx => hx) hs

/-- how the invariants of the final state are obtained (`PrioOK.final`, `uniform_final`, `NB.final`):
    the step of `Q` may assume `StOK` of the state it starts from -/
theorem final_inv (hp : PickOK pick) (g : Grammar) (s : Sent) (cfg : Cfg)
    (Q : St → Prop) (h0 : Q (init pick s cfg))
    (hQ : ∀ st st', StOK g s cfg st → Q st → stepWith pick g s cfg st = some st' → Q st') :
    StOK g s cfg (finalSt pick g s cfg) ∧ Q (finalSt pick g s cfg) :=
  loop_inv (fun st => StOK g s cfg st ∧ Q st)
    (fun st st' h hs => ⟨h.1.step hp hs, hQ st st' h.1 h.2 hs⟩) _ _ ⟨StOK.init hp g s cfg, h0⟩

theorem StOK.final (hp : PickOK pick) (g : Grammar) (s : Sent) (cfg : Cfg) :
    StOK g s cfg (finalSt pick g s cfg) :=
  (final_inv hp g s cfg (fun _ => True) trivial fun _ _ _ _ _ => trivial).1

/-- `popped` is most recent first, hence `≤` -/
structure PrioOK (st : St) : Prop where
  chain : (st.popped.map Item.prio).Pairwise (· ≤ ·)
  bound : ∀ a ∈ st.agenda, ∀ p ∈ st.popped, a.prio ≤ p.prio

theorem PrioOK.init (pick : Pick) (s : Sent) (cfg : Cfg) : PrioOK (init pick s cfg) :=
  ⟨.nil, fun _ _ _ hp => by cases hp⟩

theorem PrioOK.step {st st' : St}
    (hp : PickOK pick) (hs : SentOK s) (hpen : 0 ≤ cfg.penalty) (hok : StOK g s cfg st)
    (h : PrioOK st) (hstep : stepWith pick g s cfg st = some st') : PrioOK st' := by
  obtain ⟨-, it, rest, hpick, hcases⟩ := stepWith_cases hstep
  obtain ⟨hperm, hmax⟩ := hp.spec hpick
  have hitmem : it ∈ st.agenda := hperm.mem_iff.1 List.mem_cons_self
  have hchain : ((it :: st.popped).map Item.prio).Pairwise (· ≤ ·) := by
    rw [List.map_cons, List.pairwise_cons]
    refine ⟨?_, h.chain⟩
    intro q hq
    obtain ⟨p, hp', rfl⟩ := List.mem_map.1 hq
    exact h.bound it hitmem p hp'
  have hle : ∀ a : Item, a.prio ≤ it.prio → ∀ p ∈ it :: st.popped, a.prio ≤ p.prio :=
    fun a ha => List.forall_mem_cons.2 ⟨ha, fun p hp' => Int.le_trans ha (h.bound it hitmem p hp')⟩
  have hrest : ∀ a ∈ rest, ∀ p ∈ it :: st.popped, a.prio ≤ p.prio :=
    fun a ha => hle a (hmax a (hperm.mem_iff.1 (List.mem_cons_of_mem _ ha)))
  rcases hcases with ⟨-, -, rfl⟩ | ⟨-, rfl⟩ | ⟨hcl, rfl⟩
  · exact ⟨hchain, hrest⟩
  · exact ⟨hchain, hrest⟩
  · refine ⟨hchain, fun a ha => (hp.mem_push.1 ha).elim (fun ha => hle a ?_) (hrest a)⟩
    exact expand_prio_le hs hpen ((hok.agenda it hitmem).1 hcl.nonfin) (fun o ho => (hok.chart o ho).2) ha

theorem PrioOK.final (hp : PickOK pick) (g : Grammar)
    (hs : SentOK s) (hpen : 0 ≤ cfg.penalty) : PrioOK (finalSt pick g s cfg) :=
  (final_inv hp g s cfg PrioOK (.init pick s cfg) fun _ _ hok h => h.step hp hs hpen hok).2

theorem maxPrio_spec {l : List Item} {m : Int} (h : maxPrio l = some m) :
    (∀ o ∈ l, o.prio ≤ m) ∧ ∃ x ∈ l, x.prio = m := by
  cases l with
  | nil => cases h
  | cons y ys =>
    obtain ⟨h1, h2, h3⟩ := foldl_max_spec Item.prio ys y.prio m (Option.some.inj h)
    exact ⟨List.forall_mem_cons.2 ⟨h1, h2⟩, h3.elim (fun e => ⟨y, List.mem_cons_self, e.symm⟩)
      fun ⟨x, hx, e⟩ => ⟨x, List.mem_cons_of_mem _ hx, e⟩⟩

theorem removeFirst_spec {p : Item → Bool} {l : List Item} (h : ∃ x ∈ l, p x = true) :
    ∃ y rest, removeFirst p l = some (y, rest) ∧ p y = true ∧ (y :: rest).Perm l := by
  induction l with
  | nil => obtain ⟨x, hx, _⟩ := h; cases hx
  | cons z zs ih =>
    simp only [removeFirst]
    cases hz : p z with
    | true => exact ⟨z, zs, by simp, hz, List.Perm.refl _⟩
    | false =>
      have : ∃ x ∈ zs, p x = true := by
        obtain ⟨x, hx, hpx⟩ := h
        rcases List.mem_cons.1 hx with rfl | hx
        · rw [hz] at hpx; cases hpx
        · exact ⟨x, hx, hpx⟩
      obtain ⟨y, rest, e, hy, hperm⟩ := ih this
      exact ⟨y, z :: rest, by simp [e], hy, (List.Perm.swap z y rest).trans (hperm.cons z)⟩

theorem popFirstMax_spec (l : List Item) (hne : l ≠ []) :
    ∃ it rest, popFirstMax l = some (it, rest) ∧ (it :: rest).Perm l ∧
      ∀ o ∈ l, o.prio ≤ it.prio := by
  cases hm : maxPrio l with
  | none => cases l with
    | nil => exact absurd rfl hne
    | cons y ys => simp [maxPrio] at hm
  | some m =>
    obtain ⟨hmax, x, hx, hxm⟩ := maxPrio_spec hm
    obtain ⟨y, rest, e, hy, hperm⟩ :=
      removeFirst_spec (p := fun i => i.prio == m) (l := l) ⟨x, hx, by simp [hxm]⟩
    refine ⟨y, rest, by simp only [popFirstMax, hm]; exact e, hperm, fun o ho => ?_⟩
    rw [show y.prio = m by simpa using hy]
    exact hmax o ho

/-! Every comparison made by `popFirstMax`, by `siftUp` / `sink` / the guard of `popHeap`, and by
`insertDesc` looks at `Item.prio` only, so a map that preserves the priorities commutes with both
agendas (the heap in `HeapLemmas`) and with the final sort. -/

theorem removeFirst_map (f : Item → Item) (p : Item → Bool) (hp : ∀ x, p (f x) = p x) (l : List Item) :
    removeFirst p (l.map f) = (removeFirst p l).map fun q => (f q.1, q.2.map f) := by
  induction l with
  | nil => rfl
  | cons x xs ih =>
    simp only [List.map_cons, removeFirst, hp]
    split
    · rfl
    · rw [ih]
      cases removeFirst p xs with
      | none => rfl
      | some q => rfl

section PrioMap
variable (f : Item → Item) (hf : ∀ x, (f x).prio = x.prio)
include hf

theorem maxPrio_map (l : List Item) : maxPrio (l.map f) = maxPrio l := by
  cases l with
  | nil => rfl
  | cons x xs => simp only [List.map_cons, maxPrio, List.foldl_map, hf]

theorem popFirstMax_map (l : List Item) :
    popFirstMax (l.map f) = (popFirstMax l).map fun q => (f q.1, q.2.map f) := by
  unfold popFirstMax
  rw [maxPrio_map f hf]
  cases maxPrio l with
  | none => rfl
  | some m => exact removeFirst_map f _ (fun x => by rw [hf]) l

theorem insertDesc_map (it : Item) (l : List Item) :
    insertDesc (f it) (l.map f) = (insertDesc it l).map f := by
  induction l with
  | nil => rfl
  | cons o os ih =>
    simp only [List.map_cons, insertDesc, hf, ih]
    split <;> rfl

theorem sortDesc_map (l : List Item) : sortDesc (l.map f) = (sortDesc l).map f := by
  induction l with
  | nil => rfl
  | cons o os ih =>
    show insertDesc (f o) (sortDesc (os.map f)) = _
    rw [ih, insertDesc_map f hf]
    rfl

end PrioMap

/-- the agenda looks at priorities only: it commutes with every map of items that preserves them.
    `PickOK` is what the search theorems ask of an agenda; this is what the renaming theorem
    (`C11.runWith_rename`) asks besides.  Both agendas of the model have it (`pickFirstMax_nat`,
    `pickHeap_nat`). -/
def PickNat (pick : Pick) : Prop :=
  ∀ f : Item → Item, (∀ x, (f x).prio = x.prio) →
    (∀ l, pick.pop (l.map f) = (pick.pop l).map fun q => (f q.1, q.2.map f)) ∧
    ∀ new old, pick.push (new.map f) (old.map f) = (pick.push new old).map f

theorem pickFirstMax_nat : PickNat pickFirstMax :=
  fun f hf => ⟨popFirstMax_map f hf, fun _ _ => List.map_append.symm⟩

end Depccg.SearchProps
