/-
  What the format modules share about trees. `AllCats p t` / `AllToks p t` (Props/TextDefs.lean) are decidable with `p`, so
  that closed instances evaluate. Beside them the first facts about `guess`, `numbered` and `nodes`.
-/
import Depccg.Props.C07Defs

namespace Depccg.TextProps

theorem AllCats.mono {p q : Cat → Prop} (h : ∀ c, p c → q c) : ∀ {t : Tree}, AllCats p t → AllCats q t
  | .leaf .., hc => h _ hc
  | .un _ _ _ ch, hc => ⟨h _ hc.1, AllCats.mono h (t := ch) hc.2⟩
  | .bin _ _ _ _ l r, hc => ⟨h _ hc.1, AllCats.mono h (t := l) hc.2.1, AllCats.mono h (t := r) hc.2.2⟩

theorem AllCats.root {p : Cat → Prop} : ∀ {t : Tree}, AllCats p t → p t.cat
  | .leaf .., h => h
  | .un .., h => h.1
  | .bin .., h => h.1

theorem AllToks.mono {p q : Token → Prop} (h : ∀ tok, p tok → q tok) :
    ∀ {t : Tree}, AllToks p t → AllToks q t
  | .leaf .., ht => h _ ht
  | .un _ _ _ ch, ht => AllToks.mono h (t := ch) ht
  | .bin _ _ _ _ l r, ht => ⟨AllToks.mono h (t := l) ht.1, AllToks.mono h (t := r) ht.2⟩

theorem allToks_iff {p : Token → Prop} : ∀ {t : Tree}, AllToks p t ↔ ∀ tok ∈ t.tokens, p tok
  | .leaf .. => by simp [AllToks, Tree.tokens]
  | .un _ _ _ ch => allToks_iff (t := ch)
  | .bin _ _ _ _ l r => by
    simp only [AllToks, Tree.tokens, List.mem_append, allToks_iff (t := l), allToks_iff (t := r)]
    exact ⟨fun h tok => Or.rec (h.1 tok) (h.2 tok), fun h => ⟨fun tok ht => h tok (Or.inl ht),
      fun tok ht => h tok (Or.inr ht)⟩⟩

def decAllCats (p : Cat → Prop) [DecidablePred p] : (t : Tree) → Decidable (AllCats p t)
  | .leaf c _ _ _ => inferInstanceAs (Decidable (p c))
  | .un c _ _ ch => @instDecidableAnd _ _ (inferInstanceAs (Decidable (p c))) (decAllCats p ch)
  | .bin c _ _ _ l r =>
    @instDecidableAnd _ _ (inferInstanceAs (Decidable (p c)))
      (@instDecidableAnd _ _ (decAllCats p l) (decAllCats p r))

def decAllToks (p : Token → Prop) [DecidablePred p] : (t : Tree) → Decidable (AllToks p t)
  | .leaf _ tok _ _ => inferInstanceAs (Decidable (p tok))
  | .un _ _ _ ch => decAllToks p ch
  | .bin _ _ _ _ l r => @instDecidableAnd _ _ (decAllToks p l) (decAllToks p r)

instance (p : Cat → Prop) [DecidablePred p] : DecidablePred (AllCats p) := decAllCats p
instance (p : Token → Prop) [DecidablePred p] : DecidablePred (AllToks p) := decAllToks p

theorem tokens_length : ∀ t : Tree, t.tokens.length = t.numLeaves
  | .leaf .. => rfl
  | .un _ _ _ ch => tokens_length ch
  | .bin _ _ _ _ l r => by simp [Tree.tokens, Tree.numLeaves, tokens_length l, tokens_length r]

end Depccg.TextProps

/-- `guess_combinator_by_triplet`: the first result with the target category, else the `unk` rule -/
theorem Depccg.C12.guess_eq {lang : Lang} {target x y : Cat} {rs : List RuleRes}
    (h : binaryRules lang x y = .ok rs) :
    guess lang target x y =
      .ok ((rs.find? fun r => Cat.pyEq r.cat target).getD (unkRule target)) := by
  simp only [guess, h]
  cases rs.find? fun r => Cat.pyEq r.cat target <;> rfl

namespace Depccg.Print

theorem numbered_fst {α : Type} (batch : List (List α)) :
    (numbered batch).map (·.1) =
      (batch.zipIdx.map fun (ts, i) => List.replicate ts.length (i + 1)).flatten := by
  simp only [numbered, List.map_flatten, List.map_map, Function.comp_def, List.map_const']

theorem numbered_snd {α : Type} (batch : List (List α)) :
    (numbered batch).map (·.2) = batch.flatten := by
  simp only [numbered, List.map_flatten, List.map_map, Function.comp_def, List.map_id',
    List.zipIdx_map_fst]

theorem mem_numbered {α : Type} {batch : List (List α)} {p : Nat × α} (h : p ∈ numbered batch) :
    ∃ trees ∈ batch, p.2 ∈ trees :=
  List.mem_flatten.1 (numbered_snd batch ▸ List.mem_map_of_mem (f := (·.2)) h)

theorem forall_numbered {α : Type} {Q : α → Prop} {batch : List (List α)}
    (h : ∀ ts ∈ batch, ∀ x ∈ ts, Q x) : ∀ p ∈ numbered batch, Q p.2 := fun _ hp =>
  let ⟨ts, hts, hm⟩ := mem_numbered hp
  h ts hts _ hm

end Depccg.Print

namespace Depccg.C07

theorem nodes_pos (t : Tree) : 1 ≤ nodes t := by
  cases t <;> simp [nodes]

end Depccg.C07
