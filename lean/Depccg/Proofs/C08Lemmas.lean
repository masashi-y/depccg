/-
  C08  helper lemmas. The AUTO line is its fields joined by blanks (`autoFields`, `autoOf_fields`); the
  reader is followed over the fields of a tree (`autoNode_fields`, with the cursor `Fs` of TokenLemmas),
  so no index is ever computed. `autoImg`, what the reader returns, is the instance of `reread` that keeps
  the printed head flag. `fixCat` leaves a printed category alone because of how its text ends (`EndsOK`:
  never in `)[conj]`, `][conj]`, nor in `/`).
-/
import Depccg.Props.C08Defs
import Depccg.Props.C19Defs
import Depccg.Props.C05
import Depccg.Proofs.StrLemmas
import Depccg.Proofs.TreeLemmas
import Depccg.Proofs.TokenLemmas
import Depccg.Proofs.CatClass
import Depccg.Proofs.RereadLemmas

namespace Depccg.C08
open Depccg Str Print Read TextProps
open Depccg.C07 (nodes nodes_pos)
open Depccg.C19 (HasWord)
open Depccg.C20 (noneOf noneOf_append noneOf_cons noneOf_joinSep)

theorem featStr_plain (f : Feat) (hf : C05.WFFeat f) : ∀ ch ∈ f.str, C05.plainChar ch = true := by
  by_cases hne : f = .un none
  · subst hne; simp [Feat.str]
  · exact (C05.Feat.str_plainTok f hf hne).2

theorem catStr_chars (c : Cat) (hc : C05.WF c) :
    ∀ ch ∈ c.str, C05.plainChar ch = true ∨ Cat.isSpecial ch = true := by
  have hwf := (Closure.catA_iff_of_fn (fun _ _ _ => Iff.rfl) c).1 hc
  refine (Closure.forall_mem_str ⟨.inr C05.special_LPar, .inr C05.special_RPar⟩ c).2 (hwf.mono ?_ ?_)
  · intro b f h
    refine Closure.forall_mem_str_atom.2 ⟨fun ch hm => .inl (h.1.2 ch hm), fun _ => ?_⟩
    exact ⟨.inr C05.special_LBr, fun ch hm => .inl (featStr_plain f h.2.1 ch hm), .inr C05.special_RBr⟩
  · exact fun _ hs => .inr (C05.special_of_slash hs)

theorem catStr_noSpace (c : Cat) (hc : C05.WF c) : 32 ∉ c.str := fun hm =>
  (catStr_chars c hc 32 hm).elim (fun h => ((C05.plainChar_iff 32).1 h).2) C05.isSpecial_ne_space rfl

theorem catOK_noneOf {c : Cat} (h : CatOK c) : noneOf [32, 9, 10, 13] c.str := fun ch hm hb => by
  simp only [List.mem_cons, List.not_mem_nil, or_false] at hb
  rcases hb with rfl | rfl | rfl | rfl
  · exact catStr_noSpace c h.1 hm
  · exact (h.2.2 _ hm).1 rfl
  · exact (h.2.2 _ hm).2.1 rfl
  · exact (h.2.2 _ hm).2.2 rfl

theorem catStr_ne_nil (c : Cat) (hc : C05.WF c) : c.str ≠ [] := by
  cases c with
  | atom b f =>
    rw [C05.str_atom]
    split
    · exact hc.1.1
    · simp
  | fn l s r => rw [C05.str_fn]; simp

theorem catOK_wf {t : Tree} (h : AllCats CatOK t) : AllCats C05.WF t := h.mono fun _ h => h.1

/-- the blank-separated fields of the AUTO line of a tree; `d` is the tag printed for a token
    without `pos` (`POS` in `auto_of`, `_` in the last column of the conll table). The word is read with
    `getD … []` where the printer raises, so the list is total; a tree that `autoOf` prints has its words
    (`autoOf_hasWord`), and there they are the printed ones. -/
def autoFields (d : Str) : Tree → List Str
  | .leaf c tok _ _ =>
    [lit "(<L", c.str, Token.getD tok (lit "pos") d, Token.getD tok (lit "pos") d,
      denormalize (Token.getD tok (lit "word") []), c.str ++ lit ">)"]
  | .un c _ _ ch => [lit "(<T", c.str, lit "0", lit "1>"] ++ autoFields d ch ++ [lit ")"]
  | .bin c _ _ h l r =>
    [lit "(<T", c.str, (if h then lit "0" else lit "1"), lit "2>"] ++ autoFields d l ++ autoFields d r ++ [lit ")"]

theorem autoFields_ne_nil (d : Str) : ∀ t : Tree, autoFields d t ≠ []
  | .leaf .. => by simp [autoFields]
  | .un .. => by simp [autoFields]
  | .bin .. => by simp [autoFields]

theorem autoFields_head (d : Str) : ∀ t : Tree, ∃ f fs, autoFields d t = (40 :: f) :: fs
  | .leaf .. => ⟨_, _, rfl⟩
  | .un .. => ⟨_, _, rfl⟩
  | .bin .. => ⟨_, _, rfl⟩

theorem lit_close : lit ">)" = [62, 41] := by decide

theorem autoFields_last (d : Str) : ∀ t : Tree, ∃ fs f, autoFields d t = fs ++ [f ++ [41]]
  | .leaf c tok _ _ => ⟨[lit "(<L", c.str, Token.getD tok (lit "pos") d, Token.getD tok (lit "pos") d,
      denormalize (Token.getD tok (lit "word") [])], c.str ++ [62], by simp [autoFields, lit_close]⟩
  | .un .. => ⟨_, [], rfl⟩
  | .bin .. => ⟨_, [], rfl⟩

theorem nodes_le_autoFields (d : Str) : ∀ t : Tree, nodes t ≤ (autoFields d t).length
  | .leaf .. => by simp [nodes, autoFields]
  | .un _ _ _ ch => by
    have := nodes_le_autoFields d ch
    simp only [nodes, autoFields, List.length_append, List.length_cons]
    omega
  | .bin _ _ _ _ l r => by
    have := nodes_le_autoFields d l
    have := nodes_le_autoFields d r
    simp only [nodes, autoFields, List.length_append, List.length_cons]
    omega

theorem autoOf_fields : ∀ {t : Tree}, AllToks HasWord t → autoOf t = .ok (joinSep 32 (autoFields (lit "POS") t))
  | .leaf c tok _ _, ⟨w, hw⟩ => by
    simp only [autoOf, get_of_get? hw, autoFields, getD_of_get? hw, sp, cSpace]
  | .un c _ _ ch, h => by
    simp only [autoOf, autoOf_fields (t := ch) h, autoFields, sp, cSpace]
    exact congrArg _ (joinSep_mid 32 [lit "(<T", c.str, lit "0", lit "1>"] _ (lit ")") []
      (autoFields_ne_nil _ ch))
  | .bin c _ _ hd l r, h => by
    simp only [autoOf, autoOf_fields h.1, autoOf_fields h.2, autoFields, sp, cSpace]
    exact congrArg _ <|
      (joinSep_mid 32 [lit "(<T", c.str, (if hd then lit "0" else lit "1"), lit "2>"]
        _ (joinSep 32 (autoFields _ r)) [lit ")"] (autoFields_ne_nil _ l)).trans
      (joinSep_mid 32 ([lit "(<T", c.str, (if hd then lit "0" else lit "1"), lit "2>"] ++ autoFields _ l)
        _ (lit ")") [] (autoFields_ne_nil _ r))

theorem autoFields_noneOf : ∀ {t : Tree}, AllCats CatOK t → AllToks TokOK t →
    ∀ f ∈ autoFields (lit "POS") t, noneOf [32, 9, 10, 13] f
  | .leaf c tok _ _, hc, ht => by
    have hp : noneOf [32, 9, 10, 13] (Token.getD tok (lit "pos") (lit "POS")) :=
      (TokOK.getD_noneOf ht (by decide)).mono (by decide)
    simp only [autoFields, List.forall_mem_cons]
    exact ⟨by decide, catOK_noneOf hc, hp, hp, (TokOK.word_noneOf ht).mono (by decide),
      noneOf_append.2 ⟨catOK_noneOf hc, by decide⟩, nofun⟩
  | .un c _ _ ch, hc, ht => by
    simp only [autoFields, List.forall_mem_append, List.forall_mem_cons]
    exact ⟨⟨⟨by decide, catOK_noneOf hc.1, by decide, by decide, nofun⟩, autoFields_noneOf hc.2 ht⟩,
      by decide, nofun⟩
  | .bin c _ _ h l r, hc, ht => by
    simp only [autoFields, List.forall_mem_append, List.forall_mem_cons]
    exact ⟨⟨⟨⟨by decide, catOK_noneOf hc.1, by cases h <;> decide, by decide, nofun⟩,
      autoFields_noneOf hc.2.1 ht.1⟩, autoFields_noneOf hc.2.2 ht.2⟩, by decide, nofun⟩

def autoTok (tok : Token) : Token :=
  autoToken (denormalize (Token.getD tok (lit "word") [])) (Token.getD tok (lit "pos") (lit "POS"))
    (Token.getD tok (lit "pos") (lit "POS"))

abbrev autoImg (lang : Lang) : Tree → Tree := reread lang autoTok lexUn fun h _ => h

theorem autoImg_bin {lang : Lang} {c : Cat} {a b : Str} {h : Bool} {l r : Tree} {rule : RuleRes}
    (hg : guess lang c l.cat r.cat = .ok rule) : autoImg lang (.bin c a b h l r) =
      .bin c rule.opString rule.opSymbol h (autoImg lang l) (autoImg lang r) := reread_bin hg

theorem autoImage_inv {lang : Lang} : ∀ {t t' : Tree}, autoImage lang t = .ok t' → t' = autoImg lang t
  | .leaf .., _, h => by
    simp only [autoImage] at h
    split at h
    · cases h
    · next w hw =>
      cases h
      simp only [autoImg, reread, autoTok, getD_of_get? (get?_of_get hw)]
  | .un .., _, h => by
    simp only [autoImage] at h
    split at h
    · cases h
    · next ch' hc =>
      cases h
      simp only [autoImg, reread, lexUn, Tree.mkUnary, autoImage_inv hc]
  | .bin .., _, h => by
    simp only [autoImage] at h
    split at h
    · next l' r' hl hr =>
      cases autoImage_inv hl
      cases autoImage_inv hr
      rw [reread_cat, reread_cat] at h
      split at h
      · cases h
      · next rule hg =>
        cases h
        exact (autoImg_bin hg).symm
    · cases h
    · cases h

theorem autoImage_eq (lang : Lang) : ∀ {t : Tree}, AllCats C05.WF t → AllCats (OneSystem lang) t →
    AllToks HasWord t → autoImage lang t = .ok (autoImg lang t)
  | .leaf .., _, _, ⟨w, hw⟩ => by simp only [autoImage, autoImg, reread, autoTok, get_of_get? hw, getD_of_get? hw]
  | .un .., hc, ho, ht => by simp only [autoImage, autoImg, reread, lexUn, Tree.mkUnary, autoImage_eq lang hc.2 ho.2 ht]
  | .bin c _ _ _ l r, hc, ho, ht => by
    obtain ⟨rule, hg⟩ := guess_kids hc ho
    simp only [autoImage, autoImg, reread_bin hg, autoImage_eq lang hc.2.1 ho.2.1 ht.1,
      autoImage_eq lang hc.2.2 ho.2.2 ht.2, reread_cat, hg]

theorem autoImage_skel {lang : Lang} {t t' : Tree} (h : autoImage lang t = .ok t') : skel t' = skel t :=
  autoImage_inv h ▸ skel_reread t

theorem autoToken_word (w p q : Str) : Token.get (autoToken w p q) (lit "word") = .ok w := by
  simp [Token.get, Dict.get?, autoToken]

theorem autoToken_pos (w p q d : Str) : Token.getD (autoToken w p q) (lit "pos") d = p := by
  have : lit "word" ≠ lit "pos" := by decide
  simp [Token.getD, Dict.get?, autoToken, this]

theorem autoOf_hasWord : ∀ (t : Tree) (s : Str), autoOf t = .ok s → AllToks HasWord t
  | .leaf c tok _ _, s, h => by
    simp only [autoOf] at h
    split at h
    · cases h
    · next w hw => exact ⟨w, get?_of_get hw⟩
  | .un c a _ ch, s, h => by
    simp only [autoOf] at h
    split at h
    · cases h
    · next s1 h1 => exact autoOf_hasWord ch s1 h1
  | .bin c a _ hd l r, s, h => by
    simp only [autoOf] at h
    split at h
    · next sl sr hl hr => exact ⟨autoOf_hasWord l sl hl, autoOf_hasWord r sr hr⟩
    · cases h
    · cases h

theorem autoOf_inv {t : Tree} {s : Str} (hs : autoOf t = .ok s) : s = joinSep 32 (autoFields (lit "POS") t) :=
  (Except.ok.inj ((autoOf_fields (autoOf_hasWord t s hs)).symm.trans hs)).symm

theorem autoImg_hasWord (lang : Lang) : ∀ t : Tree, AllToks HasWord (autoImg lang t)
  | .leaf .. => ⟨_, rfl⟩
  | .un _ _ _ ch => autoImg_hasWord lang ch
  | .bin _ _ _ _ l r => ⟨autoImg_hasWord lang l, autoImg_hasWord lang r⟩

/-- the image prints the same fields, whatever `d`: a token of the image always has a `pos`, so the default is
    never printed -/
theorem autoFields_autoImg (lang : Lang) (d : Str) : ∀ t : Tree,
    autoFields d (autoImg lang t) = autoFields (lit "POS") t
  | .leaf c tok _ _ => by
    simp only [autoImg, reread, autoTok, Tree.mkTerminal, autoFields, autoToken_pos, denormalize_idem,
      getD_of_get? (get?_of_get (autoToken_word _ _ _))]
  | .un _ _ _ ch => by simp only [autoImg, reread, autoFields, ← autoFields_autoImg lang d ch]
  | .bin _ _ _ _ l r => by
    simp only [autoImg, reread, autoFields, ← autoFields_autoImg lang d l, ← autoFields_autoImg lang d r]

theorem autoFields_default (d d' : Str) : ∀ {t : Tree},
    AllToks (fun tok => ∃ p, Token.get? tok (lit "pos") = some p) t → autoFields d t = autoFields d' t
  | .leaf _ tok _ _, ⟨p, hp⟩ => by simp only [autoFields, getD_of_get? hp]
  | .un _ _ _ ch, h => by simp only [autoFields, autoFields_default d d' (t := ch) h]
  | .bin _ _ _ _ l r, h => by simp only [autoFields, autoFields_default d d' h.1, autoFields_default d d' h.2]

theorem autoOf_image {lang : Lang} {t t' : Tree} {s : Str} (hs : autoOf t = .ok s)
    (hi : autoImage lang t = .ok t') : autoOf t' = .ok s := by
  rw [autoImage_inv hi, autoOf_fields (autoImg_hasWord lang t), autoFields_autoImg, ← autoOf_inv hs]

theorem lit_0 : lit "0" = [48] := by decide
theorem lit_1 : lit "1" = [49] := by decide

theorem catOK_parse {c : Cat} (h : CatOK c) : Cat.parse (fixCat c.str) = .ok c := by
  rw [h.2.1]; exact C05.parse_print c h.1

/-- On the fields of `t` followed by the fields `more` the reader returns the image of `t` and stands
    before `more` (when the line ends with `t`, `more = []`, the index returned is not used).
    Fuel: `autoNode` and `autoChildren` call each other with one unit less, and the loop spends one
    more per child, so two units per node are enough. -/
theorem autoNode_fields (lang : Lang) (line post : Str) : ∀ (t : Tree),
    AllCats CatOK t → AllCats (OneSystem lang) t → AllToks TokOK t →
    ∀ (fuel idx : Nat) (toks : List Token) (more : List Str),
      2 * nodes t ≤ fuel → Fs line idx (autoFields (lit "POS") t ++ more) post →
      ∃ idx', autoNode lang line fuel idx toks =
          .ok (autoImg lang t, idx', toks ++ (autoImg lang t).tokens) ∧
        (more ≠ [] → Fs line idx' more post)
  | .leaf c tok a b, hcat, _, htok, fuel, idx, toks, more, hf, hd => by
    obtain ⟨f, rfl⟩ : ∃ f, fuel = f + 1 := ⟨fuel - 1, by simp only [nodes] at hf; omega⟩
    have hcat : CatOK c := hcat
    have htok : TokOK tok := htok
    have hpos : 32 ∉ Token.getD tok (lit "pos") (lit "POS") :=
      (TokOK.getD_noneOf htok (by decide)).notMem (by decide)
    have hW := TokOK.word_noneOf htok
    obtain ⟨i5, d5, hn⟩ := autoNode_leaf lang f toks hd (catStr_noSpace c hcat.1) hpos hpos
      (hW.notMem (by decide)) (catOK_parse hcat)
    rw [dropBackslashes_id (hW.notMem (by decide))] at hn
    refine ⟨_, hn, fun hm => ?_⟩
    obtain ⟨g, fs, rfl⟩ := List.exists_cons_of_ne_nil hm
    exact d5.next_snd fun hm => (List.mem_append.1 hm).elim (catStr_noSpace c hcat.1) (by decide)
  | .un c a b ch, hcat, ho, htok, fuel, idx, toks, more, hf, hd => by
    have hb := nodes_pos ch
    simp only [nodes] at hf
    obtain ⟨f, rfl⟩ : ∃ f, fuel = f + 3 := ⟨fuel - 3, by omega⟩
    obtain ⟨g, fs, hg⟩ := autoFields_head (lit "POS") ch
    simp only [autoFields, List.append_assoc, List.cons_append, List.nil_append, hg] at hd
    obtain ⟨i4, d4, hn⟩ := autoNode_tree lang (f + 2) toks hd (catStr_noSpace c hcat.1.1) (by decide) (by decide)
      (catOK_parse hcat.1)
    rw [← List.cons_append, ← hg] at d4
    obtain ⟨i5, hn5, d5⟩ := autoNode_fields lang line post ch hcat.2 ho.2 htok (f + 1) i4 toks _ (by omega) d4
    have d5 := d5 (by simp)
    refine ⟨_, hn ((autoChildren_step lang (f + 1) toks [] (hg ▸ d4) hn5).trans
      (autoChildren_stop lang f d5)), fun hm => ?_⟩
    obtain ⟨g', fs', rfl⟩ := List.exists_cons_of_ne_nil hm
    exact d5.next_snd (by decide)
  | .bin c a b hdl l r, hcat, ho, htok, fuel, idx, toks, more, hf, hd => by
    obtain ⟨rule, hg⟩ := guess_kids (catOK_wf hcat) ho
    have hbl := nodes_pos l
    have hbr := nodes_pos r
    simp only [nodes] at hf
    obtain ⟨f, rfl⟩ : ∃ f, fuel = f + 4 := ⟨fuel - 4, by omega⟩
    obtain ⟨gl, fl, hl⟩ := autoFields_head (lit "POS") l
    obtain ⟨gr, fr, hr⟩ := autoFields_head (lit "POS") r
    simp only [autoFields, List.append_assoc, List.cons_append, List.nil_append, hl] at hd
    obtain ⟨i4, d4, hn⟩ := autoNode_tree lang (f + 3) toks hd (catStr_noSpace c hcat.1.1) (by cases hdl <;> decide)
      (by decide) (catOK_parse hcat.1)
    rw [← List.cons_append, ← hl] at d4
    obtain ⟨i5, hn5, d5⟩ := autoNode_fields lang line post l hcat.2.1 ho.2.1 htok.1 (f + 2) i4 toks _ (by omega) d4
    have d5 := d5 (by simp [autoFields_ne_nil])
    obtain ⟨i6, hn6, d6⟩ := autoNode_fields lang line post r hcat.2.2 ho.2.2 htok.2 (f + 1) i5
      (toks ++ (autoImg lang l).tokens) _ (by omega) d5
    have d6 := d6 (by simp)
    have hn := hn (((autoChildren_step lang (f + 2) toks [] (hl ▸ d4) hn5).trans
      (autoChildren_step lang (f + 1) _ _ (hr ▸ d5) hn6)).trans (autoChildren_stop lang f d6))
    simp only [List.nil_append, List.cons_append, reread_cat, hg, lit_0, lit_1,
      ite_beq_left (show ([49] : Str) ≠ [48] by decide)] at hn
    rw [List.append_assoc] at hn
    rw [autoImg_bin hg]
    refine ⟨_, hn, fun hm => ?_⟩
    obtain ⟨g', fs', rfl⟩ := List.exists_cons_of_ne_nil hm
    exact d6.next_snd (by decide)

theorem readAutoLine_printed (lang : Lang) (t : Tree) (s : Str)
    (hc : AllCats CatOK t) (ho : AllCats (OneSystem lang) t) (ht : AllToks TokOK t)
    (hs : autoOf t = .ok s) : readAutoLine lang s = .ok (autoImg lang t, (autoImg lang t).tokens) := by
  obtain rfl := autoOf_inv hs
  obtain ⟨idx', h, _⟩ := autoNode_fields lang (joinSep 32 (autoFields (lit "POS") t)) [] t hc ho ht
    (2 * (joinSep 32 (autoFields (lit "POS") t)).length + 2) 0 [] []
    (by have := nodes_le_autoFields (lit "POS") t; have := length_le_joinSep 32 (autoFields (lit "POS") t); omega)
    (by simp [Fs])
  simp only [readAutoLine, h, List.nil_append]

/-- how the reversed text of a well-formed category starts: a plain character or `)`, or
    `]`, plain characters, `[`, a plain character -/
def EndsOK (r : Str) : Prop :=
  (∃ x r', r = x :: r' ∧ (C05.plainChar x = true ∨ x = 41)) ∨
  (∃ g x r', r = 93 :: (g ++ 91 :: x :: r') ∧ (∀ ch ∈ g, C05.plainChar ch = true) ∧
    C05.plainChar x = true)

theorem EndsOK.append {r : Str} (h : EndsOK r) (more : Str) : EndsOK (r ++ more) := by
  rcases h with ⟨x, r', rfl, hx⟩ | ⟨g, x, r', rfl, hg, hx⟩
  · exact Or.inl ⟨x, r' ++ more, rfl, hx⟩
  · exact Or.inr ⟨g, x, r' ++ more, by simp, hg, hx⟩

theorem endsOK_atom (b : Str) (f : Feat) (hc : C05.WF (.atom b f)) : EndsOK (Cat.atom b f).str.reverse := by
  obtain ⟨hb, hf, _⟩ := hc
  obtain ⟨x, br, hbr⟩ : ∃ x br, b.reverse = x :: br := by
    cases h : b.reverse with
    | nil => exact absurd (List.reverse_eq_nil_iff.1 h) hb.1
    | cons x br => exact ⟨x, br, rfl⟩
  have hx : C05.plainChar x = true := hb.2 x (by rw [← List.mem_reverse, hbr]; simp)
  rw [C05.str_atom]
  split
  · exact Or.inl ⟨x, br, hbr, Or.inl hx⟩
  · refine Or.inr ⟨f.str.reverse, x, br, ?_, ?_, hx⟩
    · simp [hbr, cLBr, cRBr]
    · intro ch hm
      exact featStr_plain f hf ch (List.mem_reverse.1 hm)

theorem endsOK_wrapS (c : Cat) (hc : C05.WF c) : EndsOK (C05.wrapS c).reverse := by
  cases c with
  | atom b f => exact endsOK_atom b f hc
  | fn l s r =>
    refine Or.inl ⟨41, ((Cat.fn l s r).str.reverse ++ [40]), ?_, Or.inr rfl⟩
    simp [C05.wrapS, Cat.isFunctor, cLPar, cRPar]

theorem endsOK_str (c : Cat) (hc : C05.WF c) : EndsOK c.str.reverse := by
  cases c with
  | atom b f => exact endsOK_atom b f hc
  | fn l s r =>
    rw [C05.str_fn, List.reverse_append, List.reverse_cons, List.append_assoc]
    exact (endsOK_wrapS r hc.2.2).append _

/-- a well-formed category does not end in `y[conj]` for a special `y`: if its text ends in `]`, a
    plain character stands before the matching `[` -/
theorem endsWith_conj {s : Str} (h : EndsOK s.reverse) (y : Nat) (hy : C05.plainChar y = false) :
    endsWith s [y, 91, 99, 111, 110, 106, 93] = false := by
  rw [endsWith, Bool.eq_false_iff]
  intro hs
  obtain ⟨rest, hr⟩ := prefix_of_startsWith hs
  change s.reverse = 93 :: ([106, 110, 111, 99] ++ 91 :: y :: rest) at hr
  rcases h with ⟨x, r', hx, hp⟩ | ⟨g, x, r', hx, hg, hp⟩
  · cases hx.symm.trans hr
    revert hp; decide
  · have hr := (List.cons.inj (hx.symm.trans hr)).2
    cases (Str.append_sep_inj (fun hm => absurd (hg _ hm) (by decide)) (by decide) hr).1
    cases List.append_cancel_left hr
    rw [hp] at hy; cases hy

/-- the first repair is for the one string `((S[b]\NP)/NP)/`, which ends in `/`; `EndsOK` excludes that and, by
    `endsWith_conj`, both `…)[conj]` and `…][conj]` -/
theorem fixCat_of_endsOK {s : Str} (h : EndsOK s.reverse) : fixCat s = s := by
  have h1 : (s == lit "((S[b]\\NP)/NP)/") = false := by
    rw [beq_eq_false_iff_ne]
    intro e
    rw [e] at h
    rcases h with ⟨x, r', hr, hx⟩ | ⟨g, x, r', hr, _, _⟩
    · have hx47 : x = 47 := by
        have := congrArg List.head? hr
        simpa [lit] using this.symm
      subst hx47
      rcases hx with hx | hx
      · revert hx; decide
      · cases hx
    · have := congrArg List.head? hr
      simp [lit] at this
  have h2 : endsWith s (lit ")[conj]") = false := endsWith_conj h 41 (by decide)
  have h3 : endsWith s (lit "][conj]") = false := endsWith_conj h 93 (by decide)
  simp [fixCat, h1, h2, h3]

def NoTN (s : Str) : Prop := ∀ c ∈ s, c ≠ 9 ∧ c ≠ 10

theorem NoTN.append {a b : Str} (ha : NoTN a) (hb : NoTN b) : NoTN (a ++ b) :=
  List.forall_mem_append.2 ⟨ha, hb⟩

theorem sp_single (y : Str) : sp [y] = y := rfl

end Depccg.C08
