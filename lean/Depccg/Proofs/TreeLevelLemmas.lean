/-
  A tree that mirrors a licensed derivation shares with it span length, head word (by the tree's
  own head flags), unary count, dependency sum and, computed through the caller's category list,
  tag sum (`tl_sameMeasures`, one induction: the offsets of the right child and the heads of the
  arc come from the first two); its leaves carry admitted tags.
-/
import Depccg.Props.TreeLevelDefs
import Depccg.Props.C12Glue

namespace Depccg.TreeLevel
open Depccg Search SearchProps GlueTree

variable {g : Grammar} {T : Tables} {s : Sent} {cfg : Cfg} {tokens : List Token}

/-- what the tree-level score reads off a tree, equal to what `modelScore` reads off the derivation -/
structure SameMeasures (categories : List Cat) (s : Sent) (d : Deriv) (t : Tree) : Prop where
  len : t.numLeaves = dlen d
  head : headT t (dstart d) = dhead d
  nun : nUnaryT t = nUnary d
  dep : depSumT s t (dstart d) = depSum s d
  tag : tagSumT categories s t (dstart d) = some (tagSum s d)

theorem tl_sameMeasures {categories : List Cat} (hnd : categories.Nodup)
    (htags : ∀ row ∈ s.tags, row.length ≤ categories.length)
    (hpre : ∀ i, i < categories.length → T.cats i = categories[i]?) {d : Deriv} {t : Tree}
    (hm : C12.Mirrors T tokens d t) (hl : Licensed g s cfg d) : SameMeasures categories s d t := by
  induction hm with
  | leaf tk cid cat tok hcat _ =>
    cases hl with
    | leaf _ _ sc _ hadm =>
      rw [hpre cid (admitted_col_lt hadm htags)] at hcat
      obtain ⟨hi, rfl⟩ := List.getElem?_eq_some_iff.1 hcat
      refine ⟨rfl, rfl, rfl, rfl, ?_⟩
      simp only [tagSumT, Tree.mkTerminal, dstart, tagSum, List.getElem_mem hi, if_true,
        hnd.idxOf_getElem cid hi]
  | un c rid d cat e child _ _ _ _ ih =>
    cases hl with
    | un _ _ _ hd =>
      have m := ih hd
      exact ⟨m.len, m.head, congrArg (· + 1) m.nun, m.dep, m.tag⟩
  | bin c rid hd l r cat e tl tr _ _ _ _ _ heh ihl ihr =>
    cases hl with
    | bin _ _ _ _ _ hll hlr hadj =>
      have ml := ihl hll
      have mr := ihr hlr
      have hoff : dstart l + tl.numLeaves = dstart r := by rw [ml.len]; exact hadj
      refine ⟨?_, ?_, ?_, ?_, ?_⟩
      · simp only [Tree.numLeaves, dlen, ml.len, mr.len]
      · simp only [headT, dstart, dhead, hoff, ml.head, mr.head, heh]
      · simp only [nUnaryT, nUnary, ml.nun, mr.nun]
      · simp only [depSumT, dstart, depSum, hoff, ml.head, mr.head, ml.dep, mr.dep, heh]
      · simp only [tagSumT, dstart, tagSum, hoff, ml.tag, mr.tag]

theorem tl_leafCatsT_eq : ∀ t : Tree, leafCatsT t = Closure.leafCats t
  | .leaf .. => rfl
  | .un _ _ _ ch => tl_leafCatsT_eq ch
  | .bin _ _ _ _ l r => by simp only [leafCatsT, Closure.leafCats, tl_leafCatsT_eq l, tl_leafCatsT_eq r]

theorem tl_leafToks_eq : ∀ d : Deriv, leafToks d = (leafCats d).map (·.1)
  | .leaf .. => rfl
  | .un _ _ d => tl_leafToks_eq d
  | .bin _ _ _ l r => by simp only [leafToks, leafCats, List.map_append, tl_leafToks_eq l, tl_leafToks_eq r]

theorem tl_leaf_admitted {d : Deriv} {t : Tree} (hm : C12.Mirrors T tokens d t)
    (hl : Licensed g s cfg d) :
    (leafCatsT t).length = dlen d ∧
    ∀ (i : Nat) (c : Cat), (leafCatsT t)[i]? = some c →
      ∃ sc col, (sc, col) ∈ admitted s cfg (dstart d + i) ∧ T.cats col = some c := by
  have hcats := C12.mirrors_leafCats hm
  have htoks := hl.leafToks_eq
  rw [← tl_leafCatsT_eq] at hcats
  rw [tl_leafToks_eq] at htoks
  constructor
  · have h1 := congrArg List.length hcats
    have h2 := congrArg List.length htoks
    simp only [List.length_map, List.length_range'] at h1 h2
    omega
  · intro i c hc
    have h1 := congrArg (·[i]?) hcats
    have h2 := congrArg (·[i]?) htoks
    simp only [List.getElem?_map, hc, Option.map_some] at h1 h2
    obtain ⟨p, hp, hpc⟩ := Option.map_eq_some_iff.1 h1
    obtain ⟨sc, hadm⟩ := hl.leafCats_admitted p (List.mem_of_getElem? hp)
    rw [hp, Option.map_some] at h2
    obtain ⟨_, hi⟩ := List.getElem?_eq_some_iff.1 h2.symm
    rw [List.getElem_range', Nat.one_mul] at hi
    exact ⟨sc, p.2, hi ▸ hadm, hpc⟩

theorem tl_treeScore {categories : List Cat} (hnd : categories.Nodup)
    (htags : ∀ row ∈ s.tags, row.length ≤ categories.length)
    (hpre : ∀ i, i < categories.length → T.cats i = categories[i]?) {d : Deriv} {t : Tree}
    (hm : C12.Mirrors T tokens d t) (hl : Licensed g s cfg d) (h0 : dstart d = 0) :
    treeScore categories s cfg t = some (modelScore s cfg d) := by
  have m := tl_sameMeasures hnd htags hpre hm hl
  have hts := m.tag
  have hh := m.head
  have hd := m.dep
  rw [h0] at hts hh hd
  simp only [treeScore, hts, Option.map_some, modelScore, hh, hd, m.nun]

end Depccg.TreeLevel
