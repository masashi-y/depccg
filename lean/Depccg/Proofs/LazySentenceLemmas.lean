/-
  The sentence level of the lazy run: the table after a sentence parsed after any history of the
  call still begins with the caller's categories (`lz_run_history_prefix`); `solo`, a sentence parsed
  alone, is what a call and the program are compared with (`callResults_eq`, `mainText_eq_solo`).
-/
import Depccg.Proofs.LazyLemmas
import Depccg.Proofs.ExceptLemmas

namespace Depccg.LazyProps
open Depccg Search SearchProps GlueTree GlueRun Lazy GlueRunProps

theorem treesOf_ok {gst : GSt} {tokens : List Token} {rs : List Item} {ts : List (Tree × Int)}
    (h : treesOf gst tokens rs = .ok ts) :
    rs.map (fun r => (retrieve (tablesOf gst) tokens r.d, r.prio)) = ts.map fun p => (.ok p.1, p.2) := by
  rw [treesOf_eq_mapExcept] at h
  refine (Cli.mapExcept_spec.1 h).map_eq fun r p hrp => ?_
  obtain ⟨t, ht, rfl⟩ := Except.map_ok_inv hrp
  rw [ht]

theorem treesOf_mem {gst : GSt} {tokens : List Token} {rs : List Item} {ts : List (Tree × Int)}
    (h : treesOf gst tokens rs = .ok ts) {p : Tree × Int} (hp : p ∈ ts) :
    ∃ r ∈ rs, retrieve (tablesOf gst) tokens r.d = .ok p.1 ∧ p.2 = r.prio := by
  have hm : (Except.ok p.1, p.2) ∈ ts.map fun p => ((.ok p.1 : Except Err Tree), p.2) :=
    List.mem_map.2 ⟨p, hp, rfl⟩
  rw [← treesOf_ok h] at hm
  obtain ⟨r, hr, e⟩ := List.mem_map.1 hm
  injection e with e1 e2
  exact ⟨r, hr, e1, e2.symm⟩

theorem treesOf_scores {gst : GSt} {tokens : List Token} {rs : List Item} {ts : List (Tree × Int)}
    (h : treesOf gst tokens rs = .ok ts) : ts.map (·.2) = rs.map Item.prio := by
  have := congrArg (List.map Prod.snd) (treesOf_ok h)
  simp only [List.map_map] at this
  exact this.symm

theorem treesOf_total (gst : GSt) (tokens : List Token) (rs : List Item)
    (h : ∀ r ∈ rs, ∃ t, retrieve (tablesOf gst) tokens r.d = .ok t) :
    ∃ ts, treesOf gst tokens rs = .ok ts := by
  rw [treesOf_eq_mapExcept]
  refine Cli.mapExcept_total _ rs fun r hr => ?_
  obtain ⟨t, ht⟩ := h r hr
  exact ⟨(t, r.prio), by rw [ht]; rfl⟩

theorem sentenceL_eq (pick : Pick) (G : GlueRun.CatGrammar) (rootIds : List Nat) (cfg : Cfg)
    (maxLength : Option Nat) (gst : GSt) (x : SentIn) :
    sentenceL pick G rootIds cfg maxLength gst x =
      if maxLength.any (· < x.tokens.length) then
        (.ok .failed, { results := [], popped := [], steps := 0, tie := false }, gst)
      else sentenceL.go pick G rootIds cfg gst x := by
  cases maxLength with
  | none => rfl
  | some m => simp only [sentenceL, Option.any_some, decide_eq_true_eq]

theorem sentenceL_go_eq (pick : Pick) (G : GlueRun.CatGrammar) (rootIds : List Nat) (cfg : Cfg)
    (gst : GSt) (x : SentIn) :
    sentenceL.go pick G rootIds cfg gst x =
      (if (runLWith pick G gst (sentOf rootIds x) cfg).1.results.isEmpty then .ok .failed
        else (treesOf (runLWith pick G gst (sentOf rootIds x) cfg).2 x.tokens
          (runLWith pick G gst (sentOf rootIds x) cfg).1.results).map .parsed,
       (runLWith pick G gst (sentOf rootIds x) cfg).1, (runLWith pick G gst (sentOf rootIds x) cfg).2) := by
  unfold sentenceL.go
  cases runLWith pick G gst (sentOf rootIds x) cfg with
  | mk out gst' =>
    dsimp only
    split
    · rfl
    · cases treesOf gst' x.tokens out.results <;> rfl

theorem sentenceL_reach (pick : Pick) (G : GlueRun.CatGrammar) (rootIds : List Nat) (cfg : Cfg)
    (maxLength : Option Nat) (gst : GSt) (x : SentIn) :
    Reach G gst (sentenceL pick G rootIds cfg maxLength gst x).2.2 := by
  rw [sentenceL_eq]
  split
  · exact lz_reach_refl G gst
  · rw [sentenceL_go_eq]
    exact lz_run_reach pick G gst _ cfg

theorem sentenceL_parsed {pick : Pick} {G : GlueRun.CatGrammar} {rootIds : List Nat} {cfg : Cfg}
    {maxLength : Option Nat} {gst : GSt} {x : SentIn} {trees : List (Tree × Int)}
    (h : (sentenceL pick G rootIds cfg maxLength gst x).1 = .ok (.parsed trees)) :
    (runLWith pick G gst (sentOf rootIds x) cfg).1.results ≠ [] ∧
    treesOf (runLWith pick G gst (sentOf rootIds x) cfg).2 x.tokens
      (runLWith pick G gst (sentOf rootIds x) cfg).1.results = .ok trees := by
  rw [sentenceL_eq] at h
  split at h
  · cases h
  · rw [sentenceL_go_eq] at h
    dsimp only at h
    split at h
    · cases h
    · rename_i hne
      refine ⟨fun e => hne (by rw [e]; rfl), ?_⟩
      cases ht : treesOf (runLWith pick G gst (sentOf rootIds x) cfg).2 x.tokens
          (runLWith pick G gst (sentOf rootIds x) cfg).1.results with
      | error e => rw [ht] at h; cases h
      | ok ts => rw [ht] at h; cases h; rfl

theorem sentencesL_cons (pick : Pick) (G : GlueRun.CatGrammar) (rootIds : List Nat) (cfg : Cfg)
    (maxLength : Option Nat) (g : GSt) (x : SentIn) (xs : List SentIn) :
    sentencesL pick G rootIds cfg maxLength g (x :: xs) =
      (((sentenceL pick G rootIds cfg maxLength g x).1,
          (sentenceL pick G rootIds cfg maxLength g x).2.1) ::
        (sentencesL pick G rootIds cfg maxLength (sentenceL pick G rootIds cfg maxLength g x).2.2 xs).1,
       (sentencesL pick G rootIds cfg maxLength (sentenceL pick G rootIds cfg maxLength g x).2.2 xs).2) :=
  rfl

abbrev solo (G : GlueRun.CatGrammar) (categories roots : List Cat) (cfg : Cfg) (maxLength : Option Nat)
    (x : SentIn) : Except Err SentResult :=
  (sentenceL pickHeap G (addRoots categories roots).2 cfg maxLength (GlueRun.init categories roots) x).1

theorem lz_run_history_prefix (pick : Pick) (G : GlueRun.CatGrammar) (categories roots : List Cat)
    (calls : List Call) (s : Sent) (cfg : Cfg) :
    categories <+: (runLWith pick G (calls.foldl (GlueRun.step G) (GlueRun.init categories roots))
      s cfg).2.cats :=
  (gr_addRoots_prefix roots categories).trans
    ((gr_foldl_grows G calls (GlueRun.init categories roots)).1.trans
      (lz_run_cats_prefix pick G _ s cfg))

end Depccg.LazyProps

namespace Depccg.CliProps
open Depccg Search GlueRun Lazy LazyProps Cli

/-- whatever the grammar, the history and the sentence: a result of `sentenceL` is the placeholder
    or a non-empty list of trees (`run` never appends an empty list) -/
theorem mt_sentenceL_nonempty {pick : Pick} {G : GlueRun.CatGrammar} {rootIds : List Nat} {cfg : Cfg}
    {maxLength : Option Nat} {gst : GSt} {x : SentIn} {r : SentResult}
    (h : (sentenceL pick G rootIds cfg maxLength gst x).1 = .ok r) : r ≠ .parsed [] := by
  rintro rfl
  obtain ⟨hne, hts⟩ := sentenceL_parsed h
  rw [treesOf_eq_mapExcept] at hts
  exact hne (List.eq_nil_of_length_eq_zero (mapExcept_length hts))

end Depccg.CliProps
