/-
  The complete cache `tablesN G U` that the rule functions determine under a numbering `U` of
  categories (a duplicate-free list, id = position), and the id-level grammar `grammarN G U` the
  search sees of it. A cache that satisfies the glue invariant and whose table is a prefix of `U` is
  a part of it: `grammarN G U` shows every stored row as the cache does (`agrees_grammarN`), so a
  lazy run is the plain search over it (`lz_run_grammarN`, from `lz_run_refines`), and what the cache
  decodes, `tablesN G U` decodes to the same tree (`retrieve_tablesN`). This is what a lazy run is
  compared with when the comparison must not depend on what the run happened to cache (history
  independence, optimality among all derivations of the rule functions).
-/
import Depccg.Proofs.LazyLemmas

namespace Depccg.LazyProps
open Depccg Search SearchProps GlueTree GlueRun Lazy GlueRunProps

def entryN (U : List Cat) (r : RuleRes) : CacheEntry :=
  ⟨U.idxOf r.cat, r.headLeft, r.opString, r.opSymbol⟩

/-- every row of the rule functions, a result category stored under its position in `U` (one
    outside `U` under `U.length`, which has no rows) -/
def tablesN (G : GlueRun.CatGrammar) (U : List Cat) : Tables :=
  { cats := fun i => U[i]?,
    bin := fun x y =>
      match U[x]?, U[y]? with
      | some cx, some cy => (G.bin cx cy).map (entryN U)
      | _, _ => [],
    un := fun x =>
      match U[x]? with
      | some cx => (G.un cx).map (entryN U)
      | none => [] }

theorem tablesN_un {G : GlueRun.CatGrammar} {U : List Cat} {x : Nat} {cx : Cat} (hx : U[x]? = some cx) :
    (tablesN G U).un x = (G.un cx).map (entryN U) := by
  simp only [tablesN, hx]

theorem tablesN_bin {G : GlueRun.CatGrammar} {U : List Cat} {x y : Nat} {cx cy : Cat}
    (hx : U[x]? = some cx) (hy : U[y]? = some cy) :
    (tablesN G U).bin x y = (G.bin cx cy).map (entryN U) := by
  simp only [tablesN, hx, hy]

theorem tablesN_un_none {G : GlueRun.CatGrammar} {U : List Cat} {x : Nat} (hx : U[x]? = none) :
    (tablesN G U).un x = [] := by
  simp only [tablesN, hx]

theorem tablesN_bin_none {G : GlueRun.CatGrammar} {U : List Cat} {x y : Nat}
    (h : U[x]? = none ∨ U[y]? = none) : (tablesN G U).bin x y = [] := by
  unfold tablesN
  dsimp only
  split
  · rename_i hx hy
    rcases h with h | h
    · rw [h] at hx; cases hx
    · rw [h] at hy; cases hy
  · rfl

def grammarN (G : GlueRun.CatGrammar) (U : List Cat) : Grammar := grammarOf (tablesN G U)

theorem grammarN_bin {G : GlueRun.CatGrammar} {U : List Cat} {x y : Nat} {cx cy : Cat}
    (hx : U[x]? = some cx) (hy : U[y]? = some cy) :
    (grammarN G U).bin x y = (G.bin cx cy).map fun r => ⟨U.idxOf r.cat, r.headLeft⟩ :=
  (congrArg (List.map _) (tablesN_bin hx hy)).trans List.map_map

theorem grammarN_un {G : GlueRun.CatGrammar} {U : List Cat} {x : Nat} {cx : Cat} (hx : U[x]? = some cx) :
    (grammarN G U).un x = (G.un cx).map fun r => U.idxOf r.cat :=
  (congrArg (List.map _) (tablesN_un hx)).trans List.map_map

theorem grammarN_bin_none {G : GlueRun.CatGrammar} {U : List Cat} {x y : Nat}
    (h : U[x]? = none ∨ U[y]? = none) : (grammarN G U).bin x y = [] :=
  congrArg (List.map _) (tablesN_bin_none h)

theorem grammarN_headUniform {G : GlueRun.CatGrammar} {b : Bool}
    (h : ∀ x y, ∀ r ∈ G.bin x y, r.headLeft = b) (U : List Cat) :
    ∀ x y, ∀ r ∈ (grammarN G U).bin x y, r.headLeft = b := by
  intro x y r hr
  cases hx : U[x]? with
  | none => rw [grammarN_bin_none (.inl hx)] at hr; cases hr
  | some cx =>
    cases hy : U[y]? with
    | none => rw [grammarN_bin_none (.inr hy)] at hr; cases hr
    | some cy =>
      rw [grammarN_bin hx hy] at hr
      obtain ⟨res, hres, rfl⟩ := List.mem_map.1 hr
      exact h cx cy res hres

theorem _root_.Depccg.GlueRunProps.RowOK.map_eq {heads : Bool} {cats : List Cat} {rs : List RuleRes}
    {row : List CacheEntry} (h : RowOK heads cats rs row) {β : Type} {f : RuleRes → β} {k : CacheEntry → β}
    (hfk : ∀ (i : Nat) r e, rs[i]? = some r → row[i]? = some e → f r = k e) : rs.map f = row.map k := by
  apply List.ext_getElem?
  intro i
  simp only [List.getElem?_map]
  cases hr : rs[i]? with
  | none => rw [List.getElem?_eq_none_iff.2 (h.length ▸ List.getElem?_eq_none_iff.1 hr)]; rfl
  | some r =>
    obtain ⟨e, he, -⟩ := h.of_res hr
    rw [he, Option.map_some, Option.map_some, hfk i r e hr he]

theorem agrees_grammarN {G : GlueRun.CatGrammar} {F : GSt} {U : List Cat} (h : CacheOK G F)
    (hU : U.Nodup) (hp : F.cats <+: U) : Agrees F (grammarN G U) := by
  refine ⟨fun x row hr => ?_, fun x y row hr => ?_⟩
  · obtain ⟨cx, hx, hok⟩ := h.un hr
    rw [grammarN_un (gr_prefix_get hp hx), lz_view_un, hr]
    exact hok.map_eq fun i r e hr he => idxOf_of_get hU hp (hok.entry hr he).1
  · obtain ⟨cx, cy, hx, hy, hok⟩ := h.bin hr
    rw [grammarN_bin (gr_prefix_get hp hx) (gr_prefix_get hp hy), lz_view_bin, hr]
    refine hok.map_eq fun i r e hr he => ?_
    obtain ⟨hc, hh, -⟩ := hok.entry hr he
    rw [idxOf_of_get hU hp hc, hh rfl]

theorem lz_run_grammarN {pick : Pick} {G : GlueRun.CatGrammar} {gst : GSt} {s : Sent} {cfg : Cfg}
    (hp : PickOK pick) (hinv : Inv' G gst) (htags : ∀ row ∈ s.tags, row.length ≤ gst.cats.length)
    {U : List Cat} (hU : U.Nodup) (hpre : (runLWith pick G gst s cfg).2.cats <+: U) :
    (runLWith pick G gst s cfg).1 = runWith pick (grammarN G U) s cfg :=
  lz_run_refines hp hinv htags
    (agrees_grammarN (inv'_iff_cacheOK.1 (lz_run_inv pick s cfg hinv)) hU hpre)

theorem _root_.Depccg.GlueRunProps.CacheOK.un_entryN {G : GlueRun.CatGrammar} {F : GSt} {U : List Cat}
    (h : CacheOK G F) (hp : F.cats <+: U) {x rid : Nat} {e : CacheEntry}
    (he : ((tablesOf F).un x)[rid]? = some e) :
    ∃ r, ((tablesN G U).un x)[rid]? = some (entryN U r) ∧ r.opString = e.opString ∧
      r.opSymbol = e.opSymbol := by
  have hrow := gr_row_of_mem (List.mem_of_getElem? he)
  obtain ⟨cx, hx, ok⟩ := h.un hrow
  obtain ⟨r, hr, -, -, l1, l2⟩ := ok.of_entry he
  exact ⟨r, by rw [tablesN_un (gr_prefix_get hp hx), List.getElem?_map, hr]; rfl, l1.symm, l2.symm⟩

theorem _root_.Depccg.GlueRunProps.CacheOK.bin_entryN {G : GlueRun.CatGrammar} {F : GSt} {U : List Cat}
    (h : CacheOK G F) (hp : F.cats <+: U) {x y rid : Nat} {e : CacheEntry}
    (he : ((tablesOf F).bin x y)[rid]? = some e) :
    ∃ r, ((tablesN G U).bin x y)[rid]? = some (entryN U r) ∧ r.opString = e.opString ∧
      r.opSymbol = e.opSymbol ∧ r.headLeft = e.headLeft := by
  have hrow := gr_row_of_mem (List.mem_of_getElem? he)
  obtain ⟨cx, cy, hx, hy, ok⟩ := h.bin hrow
  obtain ⟨r, hr, -, l0, l1, l2⟩ := ok.of_entry he
  exact ⟨r, by rw [tablesN_bin (gr_prefix_get hp hx) (gr_prefix_get hp hy), List.getElem?_map, hr]; rfl,
    l1.symm, l2.symm, (l0 rfl).symm⟩

theorem retrieve_tablesN {G : GlueRun.CatGrammar} {F : GSt} {U : List Cat} (h : CacheOK G F)
    (hp : F.cats <+: U) (tokens : List Token) : ∀ {d : Deriv} {t : Tree},
      retrieve (tablesOf F) tokens d = .ok t → retrieve (tablesN G U) tokens d = .ok t := by
  intro d
  induction d with
  | leaf tk c =>
    intro t hret
    obtain ⟨cat, tok, hcat, htok, rfl⟩ := retrieve_leaf_ok.1 hret
    exact retrieve_leaf_ok.2 ⟨cat, tok, gr_prefix_get hp hcat, htok, rfl⟩
  | un c rid d ih =>
    intro t hret
    obtain ⟨ch, cat, e, hch, hcat, he, rfl⟩ := retrieve_un_ok.1 hret
    obtain ⟨r, hr, l1, l2⟩ := h.un_entryN hp he
    exact retrieve_un_ok.2 ⟨ch, cat, _, ih hch, gr_prefix_get hp hcat, hr, by rw [← l1, ← l2]; rfl⟩
  | bin c rid hl l r ihl ihr =>
    intro t hret
    obtain ⟨tl, tr, cat, e, htl, htr, hcat, he, rfl⟩ := retrieve_bin_ok.1 hret
    obtain ⟨res, hr, l1, l2, l3⟩ := h.bin_entryN hp he
    exact retrieve_bin_ok.2 ⟨tl, tr, cat, _, ihl htl, ihr htr, gr_prefix_get hp hcat, hr,
      by rw [← l1, ← l2, ← l3]; rfl⟩

end Depccg.LazyProps
