/-
  The reader `Read.parseJson` on the text `JVal.render` writes: every way `jsonEscChar` spells a
  character is read back as that character, the decimal expansion of `k/64` as `k`, and arrays and
  objects by one argument about a bracketed, comma-separated sequence (`reads_render`, `js_parseJson`).
  Which characters that text holds: `Ascii`, piece by piece along the same recursion (`ascii_render`).
  From the value back to the derivations: `scalar_sentences` turns `BatchOK` into the `ScalarVal` the
  reader asks for, and the value `jsonSentences` builds is taken apart again by `jsonReadSentences`
  (`js_readSentences`).
-/
import Depccg.Props.C07JsonDefs
import Depccg.Proofs.DictLemmas
import Depccg.Proofs.StrLemmas
import Depccg.Proofs.Lit

namespace Depccg.C07Json
open Depccg Str Print Read

theorem js_skipWs_eq (s : Str) : jsonSkipWs s = s.dropWhile jsonWs :=
  skip_eq_dropWhile rfl (fun _ _ => rfl) s

theorem js_skipWs_append {w : Str} (hw : ∀ c ∈ w, jsonWs c = true) (s : Str) :
    jsonSkipWs (w ++ s) = jsonSkipWs s := by
  rw [js_skipWs_eq, js_skipWs_eq, List.dropWhile_append_of_pos hw]

theorem js_skipWs_cons {c : Nat} {r : Str} (h : jsonWs c = false) : jsonSkipWs (c :: r) = c :: r := by
  rw [js_skipWs_eq, dropWhile_stops (s := c :: r) h]

theorem js_skipWs_newlineIndent (n : Nat) (s : Str) : jsonSkipWs (newlineIndent n ++ s) = jsonSkipWs s := by
  refine js_skipWs_append (fun c hc => ?_) s
  simp only [newlineIndent, List.mem_cons, List.mem_replicate] at hc
  rcases hc with rfl | ⟨_, rfl⟩ <;> rfl

theorem js_hexVal_hexDigit : ∀ d, d < 16 → jsonHexVal (hexDigit d) = some d := by decide

theorem js_hex4 (n : Nat) (h : n < 65536) (rest : Str) : jsonHex4 (hex4 n ++ rest) = some (n, rest) := by
  unfold hex4
  simp only [List.cons_append, List.nil_append, jsonHex4,
    js_hexVal_hexDigit _ (Nat.mod_lt _ (by decide : 0 < 16))]
  congr 2
  omega

/-- the four ways `jsonEscChar` spells a character: a one-letter escape, the character itself,
    `\uXXXX`, a surrogate pair -/
inductive EscShape (c : Nat) : Str → Prop
  | short (e : Nat) (he : 32 ≤ e ∧ e ≤ 126 ∧ e ≠ 117) (h : jsonUnescape e = some c) : EscShape c [92, e]
  | plain (h : 32 ≤ c ∧ c ≤ 126) (h34 : c ≠ 34) (h92 : c ≠ 92) : EscShape c [c]
  | bmp (h : c < 65536) : EscShape c ([92, 117] ++ hex4 c)
  | pair (h : 65536 ≤ c) :
    EscShape c ([92, 117] ++ hex4 (55296 + (c - 65536) / 1024 % 1024) ++ [92, 117] ++ hex4 (56320 + (c - 65536) % 1024))

theorem jsonEscChar_shape (c : Nat) : EscShape c (jsonEscChar c) := by
  by_cases h34 : c = 34
  · exact h34 ▸ .short 34 (by decide) rfl
  by_cases h92 : c = 92
  · exact h92 ▸ .short 92 (by decide) rfl
  by_cases h10 : c = 10
  · exact h10 ▸ .short 110 (by decide) rfl
  by_cases h13 : c = 13
  · exact h13 ▸ .short 114 (by decide) rfl
  by_cases h9 : c = 9
  · exact h9 ▸ .short 116 (by decide) rfl
  by_cases h8 : c = 8
  · exact h8 ▸ .short 98 (by decide) rfl
  by_cases h12 : c = 12
  · exact h12 ▸ .short 102 (by decide) rfl
  unfold jsonEscChar
  rw [if_neg h34, if_neg h92, if_neg h10, if_neg h13, if_neg h9, if_neg h8, if_neg h12]
  by_cases hp : 32 ≤ c ∧ c ≤ 126
  · rw [if_pos hp]
    exact .plain hp h34 h92
  rw [if_neg hp]
  by_cases hb : c < 65536
  · rw [if_pos hb]
    exact .bmp hb
  · rw [if_neg hb]
    exact .pair (Nat.le_of_not_lt hb)

/-- `hc` is needed for `\uXXXX` only: on a high surrogate the reader looks ahead for a low one and would join the two. -/
theorem js_readStr_step {c : Nat} {e : Str} (h : EscShape c e) (hc : c < 55296 ∨ (57344 ≤ c ∧ c < 1114112))
    (fuel : Nat) (acc tail : Str) :
    jsonReadStr (fuel + 1) acc (e ++ tail) = jsonReadStr fuel (c :: acc) tail := by
  have h92 : (92 : Nat) ≠ 34 := by decide
  cases h with
  | short e he h => simp only [List.cons_append, List.nil_append, jsonReadStr, h, he.2.2, h92, if_false, if_true]
  | plain h h34 h92 =>
    have h3 : ¬ c < 32 := by omega
    simp only [List.cons_append, List.nil_append, jsonReadStr, h34, h92, h3, if_false]
  | bmp h =>
    have h3 : ¬ (55296 ≤ c ∧ c ≤ 56319) := by omega
    simp only [List.cons_append, List.nil_append, jsonReadStr, js_hex4 c h, h3, h92, if_false, if_true]
  | pair h =>
    have hhi : 55296 + (c - 65536) / 1024 % 1024 < 65536 := by omega
    have hlo : 56320 + (c - 65536) % 1024 < 65536 := by omega
    have h3 : 55296 ≤ 55296 + (c - 65536) / 1024 % 1024 ∧ 55296 + (c - 65536) / 1024 % 1024 ≤ 56319 := by omega
    have h4 : 56320 ≤ 56320 + (c - 65536) % 1024 ∧ 56320 + (c - 65536) % 1024 ≤ 57343 := by omega
    have h5 : 65536 + (55296 + (c - 65536) / 1024 % 1024 - 55296) * 1024 + (56320 + (c - 65536) % 1024 - 56320) = c := by
      omega
    simp only [List.cons_append, List.nil_append, List.append_assoc, jsonReadStr, js_hex4 _ hhi, js_hex4 _ hlo,
      h3, h4, h5, and_self, if_false, if_true, h92]

theorem js_escShape_length {c : Nat} {e : Str} (h : EscShape c e) : 1 ≤ e.length := by
  cases h <;> simp

theorem js_readStr_aux : ∀ (s : Str), ScalarStr s → ∀ (fuel : Nat) (acc rest : Str), s.length ≤ fuel →
    jsonReadStr (fuel + 1) acc (jsonEsc s ++ 34 :: rest) = some (acc.reverse ++ s, rest)
  | [], _, fuel, acc, rest, _ => by
    simp only [jsonEsc, List.nil_append, jsonReadStr, if_true, List.append_nil]
  | _ :: _, _, 0, _, _, hf => absurd hf (Nat.not_succ_le_zero _)
  | c :: cs, hs, f + 1, acc, rest, hf => by
    rw [jsonEsc, List.append_assoc, js_readStr_step (jsonEscChar_shape c) (hs c (List.mem_cons_self ..)),
      js_readStr_aux cs (fun x hx => hs x (List.mem_cons_of_mem _ hx)) f (c :: acc) rest (Nat.le_of_succ_le_succ hf),
      List.reverse_cons, List.append_assoc, List.singleton_append]

theorem js_esc_length : ∀ (s : Str), s.length ≤ (jsonEsc s).length
  | [] => Nat.le_refl _
  | c :: cs => by
    have := js_esc_length cs
    have := js_escShape_length (jsonEscChar_shape c)
    simp only [jsonEsc, List.length_cons, List.length_append]
    omega

theorem js_readStr (s : Str) (hs : ScalarStr s) (rest : Str) :
    jsonReadStr ((jsonEsc s ++ 34 :: rest).length + 1) [] (jsonEsc s ++ 34 :: rest) = some (s, rest) :=
  js_readStr_aux s hs _ [] rest (by
    have := js_esc_length s
    simp only [List.length_append, List.length_cons]
    omega)

/-- the text ends a number: it does not go on with a digit. This is `Stops jsonDigit` of `StrLemmas`, under the name
    the statements of this file use. -/
def NoDigitHead : Str → Prop
  | [] => True
  | c :: _ => jsonDigit c = false

theorem js_span_digits (ds rest : Str) (hd : ∀ c ∈ ds, jsonDigit c = true) (hr : NoDigitHead rest) :
    (ds ++ rest).takeWhile jsonDigit = ds ∧ (ds ++ rest).dropWhile jsonDigit = rest :=
  span_stops hd (by cases rest <;> exact hr)

/-- the digits after the point of `r/64` -/
def fracStr (r : Nat) : Str :=
  let frac := stripZeros (List.replicate (6 - (Str.ofNat (r * 15625)).length) 48 ++ Str.ofNat (r * 15625))
  if frac = [] then [48] else frac

theorem js_float_eq (k : Int) :
    jsonFloat k = (if k < 0 then [45] else []) ++ (Str.ofNat (k.natAbs / 64) ++ 46 :: fracStr (k.natAbs % 64)) := by
  simp only [jsonFloat, fracStr, List.append_assoc, List.singleton_append]

/-- all 64 remainders are evaluated: the one place where the digits of `r * 15625` (`r/64` in millionths) are computed -/
theorem js_frac_table : ∀ r, r < 64 →
    (∀ c ∈ fracStr r, jsonDigit c = true) ∧ (fracStr r).isEmpty = false ∧
      64 * jsonDigitsVal (fracStr r) = r * 10 ^ (fracStr r).length := by
  decide +kernel

theorem js_digit_iff {c : Nat} : jsonDigit c = true ↔ 48 ≤ c ∧ c ≤ 57 := by
  simp only [jsonDigit, Bool.and_eq_true, decide_eq_true_eq]

/-- The sign is a proposition `neg` and the magnitude is `64 * n + r`, the way `jsonFloat` splits `|k|`: `js_readNumber`
    is then one rewrite, and both signs are one `by_cases`. -/
theorem js_readNumber_signed (neg : Prop) [Decidable neg] (n r : Nat) (hr : r < 64) (rest : Str)
    (hrest : NoDigitHead rest) :
    jsonReadNumber ((if neg then [45] else []) ++ (Str.ofNat n ++ 46 :: (fracStr r ++ rest))) =
      some (.num (if neg then - ((64 * n + r : Nat) : Int) else ((64 * n + r : Nat) : Int)), rest) := by
  obtain ⟨d, tl, hd, hd1, hd2⟩ := Str.ofNat_head n
  obtain ⟨t1, t2, t3⟩ := js_frac_table r hr
  have s1 := js_span_digits (Str.ofNat n) (46 :: (fracStr r ++ rest))
    (fun c hc => js_digit_iff.2 (Str.ofNat_digits n c hc)) (show jsonDigit 46 = false by decide)
  have s2 := js_span_digits (fracStr r) rest t1 hrest
  have hpos : 0 < 10 ^ (fracStr r).length := Nat.pow_pos (by decide)
  have hnum : 64 * (n * 10 ^ (fracStr r).length + jsonDigitsVal (fracStr r)) = (64 * n + r) * 10 ^ (fracStr r).length := by
    rw [Nat.mul_add, t3, Nat.add_mul, Nat.mul_assoc]
  have hneg : ((Str.ofNat n ++ 46 :: (fracStr r ++ rest)).head? == some 45) = false := by
    rw [hd]
    simp only [List.cons_append, List.head?_cons, beq_eq_false_iff_ne, ne_eq, Option.some.injEq]
    omega
  unfold jsonReadNumber
  by_cases h : neg <;>
    simp only [h, if_false, if_true, List.nil_append, List.cons_append, List.head?_cons, Bool.false_eq_true,
      beq_self_eq_true, List.drop_succ_cons, List.drop_zero, hneg, s1.1, s1.2, s2.1, s2.2,
      C07.cn_conllNat_ofNat, t2, hnum, Nat.mul_mod_left, Nat.mul_div_cancel _ hpos]

theorem js_readNumber (k : Int) (rest : Str) (hrest : NoDigitHead rest) :
    jsonReadNumber (jsonFloat k ++ rest) = some (.num k, rest) := by
  rw [js_float_eq, List.append_assoc, List.append_assoc, List.cons_append,
    js_readNumber_signed (k < 0) _ _ (Nat.mod_lt _ (by decide)) rest hrest, Nat.div_add_mod, Str.signed_natAbs]

/-- the first character of a value: `"`, `[`, `{`, `-` or a digit -/
def ValStart (d : Nat) : Prop := d = 34 ∨ d = 91 ∨ d = 123 ∨ d = 45 ∨ (48 ≤ d ∧ d ≤ 57)

theorem js_valStart_notWs {d : Nat} (h : ValStart d) : jsonWs d = false := by
  simp only [jsonWs, Bool.or_eq_false_iff, beq_eq_false_iff_ne]
  unfold ValStart at h
  omega

theorem js_float_head (k : Int) :
    ∃ d tl, jsonFloat k = d :: tl ∧ (d = 45 ∨ (48 ≤ d ∧ d ≤ 57)) ∧
      ∀ rest, jsonDropPrefix jsonNegInfLit (d :: (tl ++ rest)) = none := by
  obtain ⟨d, tl, hd, hd1, hd2⟩ := Str.ofNat_head (k.natAbs / 64)
  rw [js_float_eq, hd]
  by_cases hk : k < 0
  · refine ⟨45, d :: (tl ++ 46 :: fracStr (k.natAbs % 64)), by rw [if_pos hk]; rfl, Or.inl rfl, fun rest => ?_⟩
    have : ¬ d = 73 := by omega
    simp only [jsonNegInfLit, jsonDropPrefix, List.cons_append, if_true, this, if_false]
  · refine ⟨d, tl ++ 46 :: fracStr (k.natAbs % 64), by rw [if_neg hk]; rfl, Or.inr ⟨hd1, hd2⟩, fun rest => ?_⟩
    have : ¬ d = 45 := by omega
    simp only [jsonNegInfLit, jsonDropPrefix, this, if_false]

structure Reads {α : Type} (p : Nat → Str → Option (α × Str)) (k : Str) (x : α) : Prop where
  head : ∃ d tl, k = d :: tl ∧ ValStart d
  reads : ∀ rest fuel, NoDigitHead rest → k.length ≤ fuel → p (fuel + 1) (k ++ rest) = some (x, rest)

/-- `pS` reads `k` as the further elements `xs` of an array or object closed by `cls` on a new
    line: `k` is empty or begins with the comma, and from `k`, the new line and `cls`, `pS` returns
    `xs` and what follows -/
structure ReadsMore {α : Type} (pS : Nat → Str → Option (List α × Str)) (cls : Nat) (k : Str) (xs : List α) :
    Prop where
  /-- for the element before `k`: what follows it, the comma of `k` or the new line before `cls`, is no digit, which is
      what `Reads.reads` asks of its `rest` (a number stops there) -/
  head : ∀ t, NoDigitHead (k ++ 10 :: t)
  reads : ∀ n rest fuel, k.length ≤ fuel →
    pS (fuel + 1) (k ++ (newlineIndent n ++ cls :: rest)) = some (xs, rest)

theorem reads_str {s : Str} (hs : ScalarStr s) : Reads parseVal (jsonStr s) (.str s) where
  head := ⟨34, _, rfl, Or.inl rfl⟩
  reads rest fuel _ _ := by
    have e : jsonStr s ++ rest = 34 :: (jsonEsc s ++ 34 :: rest) := by
      simp only [jsonStr, List.append_assoc, List.cons_append, List.nil_append]
    simp only [e, parseVal, js_skipWs_cons (show jsonWs 34 = false by decide), js_readStr s hs rest, if_true]

theorem reads_num (k : Int) : Reads parseVal (jsonFloat k) (.num k) := by
  obtain ⟨d, tl, h, hd, hp⟩ := js_float_head k
  have hv : ValStart d := by unfold ValStart; omega
  refine ⟨⟨d, tl, h, hv⟩, fun rest fuel hr _ => ?_⟩
  have hn := js_readNumber k rest hr
  rw [h, List.cons_append] at hn ⊢
  have a : ¬ d = 34 := by omega
  have b : ¬ d = 91 := by omega
  have c : ¬ d = 123 := by omega
  rw [parseVal]
  simp only [js_skipWs_cons (js_valStart_notWs hv), hp, hn, a, b, c, if_false]

theorem js_lit_negInf : lit "-Infinity" = jsonNegInfLit := by decide_lit

theorem reads_negInf : Reads parseVal (lit "-Infinity") .negInf where
  head := ⟨45, _, js_lit_negInf, Or.inr (Or.inr (Or.inr (Or.inl rfl)))⟩
  reads rest fuel _ _ := by
    simp only [js_lit_negInf, parseVal, jsonNegInfLit, List.cons_append, List.nil_append,
      js_skipWs_cons (show jsonWs 45 = false by decide), jsonDropPrefix, if_true, if_false,
      (by decide : ¬ (45 : Nat) = 34), (by decide : ¬ (45 : Nat) = 91), (by decide : ¬ (45 : Nat) = 123)]

/-- What the readers of arrays and of objects have in common. -/
structure Bracket {α : Type} (opn cls : Nat) (mk : List α → JVal) (pE : Nat → Str → Option (α × Str))
    (pS : Nat → Str → Option (List α × Str)) : Prop where
  opn_start : ValStart opn
  cls_ws : jsonWs cls = false
  cls_ne : ∀ {d}, ValStart d → d ≠ cls
  skip : ∀ (f : Nat) {s s' : Str}, jsonSkipWs s = jsonSkipWs s' → pE f s = pE f s'
  empty : ∀ (f : Nat) {s r r1 : Str}, jsonSkipWs s = opn :: r → jsonSkipWs r = cls :: r1 →
    parseVal (f + 1) s = some (mk [], r1)
  first : ∀ (f : Nat) {s r r1 r2 r3 : Str} {d : Nat} {x : α} {xs : List α}, jsonSkipWs s = opn :: r →
    jsonSkipWs r = d :: r1 → d ≠ cls → pE f (d :: r1) = some (x, r2) → pS f r2 = some (xs, r3) →
    parseVal (f + 1) s = some (mk (x :: xs), r3)
  done : ∀ (f : Nat) {s r : Str}, jsonSkipWs s = cls :: r → pS (f + 1) s = some ([], r)
  next : ∀ (f : Nat) {s r r1 r2 : Str} {x : α} {xs : List α}, jsonSkipWs s = 44 :: r →
    pE f r = some (x, r1) → pS f r1 = some (xs, r2) → pS (f + 1) s = some (x :: xs, r2)

theorem parseVal_skip (f : Nat) {s s' : Str} (h : jsonSkipWs s = jsonSkipWs s') : parseVal f s = parseVal f s' := by
  cases f with
  | zero => rfl
  | succ f => simp only [parseVal, h]

theorem bracket_arr : Bracket 91 93 .arr parseVal parseItems where
  opn_start := Or.inr (Or.inl rfl)
  cls_ws := by decide
  cls_ne h := by unfold ValStart at h; omega
  skip f _ _ h := parseVal_skip f h
  empty f _ _ _ h1 h2 := by simp only [parseVal, h1, h2, if_true, if_false, (by decide : ¬ (91 : Nat) = 34)]
  first f _ _ _ _ _ _ _ _ h1 h2 hd h3 h4 := by
    simp only [parseVal, h1, h2, h3, h4, hd, if_true, if_false, (by decide : ¬ (91 : Nat) = 34)]
  done f _ _ h1 := by simp only [parseItems, h1, if_true]
  next f _ _ _ _ _ _ h1 h2 h3 := by
    simp only [parseItems, h1, h2, h3, if_true, if_false, (by decide : ¬ (44 : Nat) = 93)]

theorem bracket_obj : Bracket 123 125 .obj parseMember parseMembers where
  opn_start := Or.inr (Or.inr (Or.inl rfl))
  cls_ws := by decide
  cls_ne h := by unfold ValStart at h; omega
  skip f _ _ h := by cases f with
    | zero => rfl
    | succ f => simp only [parseMember, h]
  empty f _ _ _ h1 h2 := by
    simp only [parseVal, h1, h2, if_true, if_false, (by decide : ¬ (123 : Nat) = 34), (by decide : ¬ (123 : Nat) = 91)]
  first f _ _ _ _ _ _ _ _ h1 h2 hd h3 h4 := by
    simp only [parseVal, h1, h2, h3, h4, hd, if_true, if_false, (by decide : ¬ (123 : Nat) = 34),
      (by decide : ¬ (123 : Nat) = 91)]
  done f _ _ h1 := by simp only [parseMembers, h1, if_true]
  next f _ _ _ _ _ _ h1 h2 h3 := by
    simp only [parseMembers, h1, h2, h3, if_true, if_false, (by decide : ¬ (44 : Nat) = 125)]

namespace Bracket

variable {α : Type} {opn cls : Nat} {mk : List α → JVal} {pE : Nat → Str → Option (α × Str)}
  {pS : Nat → Str → Option (List α × Str)} (B : Bracket opn cls mk pE pS)
include B

theorem reads_nil : Reads parseVal [opn, cls] (mk []) where
  head := ⟨opn, _, rfl, B.opn_start⟩
  reads _ fuel _ _ :=
    B.empty fuel (js_skipWs_cons (js_valStart_notWs B.opn_start)) (js_skipWs_cons B.cls_ws)

theorem more_nil : ReadsMore pS cls [] [] where
  head _ := show jsonDigit 10 = false by decide
  reads n _ fuel _ :=
    B.done fuel ((js_skipWs_newlineIndent n _).trans (js_skipWs_cons B.cls_ws))

variable {kx kxs : Str} {x : α} {xs : List α} (hx : Reads pE kx x) (hxs : ReadsMore pS cls kxs xs)
include hx hxs

theorem reads_cons (m n : Nat) :
    Reads parseVal (opn :: (newlineIndent m ++ (kx ++ (kxs ++ (newlineIndent n ++ [cls]))))) (mk (x :: xs)) where
  head := ⟨opn, _, rfl, B.opn_start⟩
  reads rest fuel _ hf := by
    obtain ⟨d, tl, rfl, hd⟩ := hx.head
    simp only [List.length_cons, List.length_append] at hf
    simp only [List.cons_append, List.append_assoc, List.nil_append]
    obtain ⟨f, rfl⟩ : ∃ f, fuel = f + 1 := ⟨fuel - 1, by omega⟩
    exact B.first (f + 1) (js_skipWs_cons (js_valStart_notWs B.opn_start))
      ((js_skipWs_newlineIndent m _).trans (js_skipWs_cons (js_valStart_notWs hd)))
      (B.cls_ne hd) (hx.reads (kxs ++ (newlineIndent n ++ cls :: rest)) f (hxs.head _)
        (by simp only [List.length_cons]; omega))
      (hxs.reads n rest f (by omega))

theorem more_cons (m : Nat) : ReadsMore pS cls (44 :: (newlineIndent m ++ (kx ++ kxs))) (x :: xs) where
  head _ := show jsonDigit 44 = false by decide
  reads n rest fuel hf := by
    simp only [List.length_cons, List.length_append] at hf
    simp only [List.cons_append, List.append_assoc]
    obtain ⟨f, rfl⟩ : ∃ f, fuel = f + 1 := ⟨fuel - 1, by omega⟩
    refine B.next (f + 1) (js_skipWs_cons (by decide)) ?_ (hxs.reads n rest f (by omega))
    rw [B.skip (f + 1) (js_skipWs_newlineIndent m _)]
    exact hx.reads (kxs ++ (newlineIndent n ++ cls :: rest)) f (hxs.head _) (by omega)

end Bracket

theorem js_parseMember_step {k t r : Str} {v : JVal} (hk : ScalarStr k) {f : Nat} (h : parseVal f t = some (v, r)) :
    parseMember (f + 1) (34 :: (jsonEsc k ++ 34 :: 58 :: 32 :: t)) = some ((k, v), r) := by
  rw [parseVal_skip f (js_skipWs_append (w := [32]) (by decide) t).symm, List.singleton_append] at h
  simp only [parseMember, js_skipWs_cons (show jsonWs 34 = false by decide), js_readStr k hk,
    js_skipWs_cons (show jsonWs 58 = false by decide), h, if_true]

theorem reads_member {k kv : Str} {v : JVal} (hk : ScalarStr k) (hv : Reads parseVal kv v) :
    Reads parseMember (jsonStr k ++ (58 :: 32 :: kv)) (k, v) where
  head := ⟨34, _, rfl, Or.inl rfl⟩
  reads rest fuel hr hf := by
    have e : jsonStr k ++ (58 :: 32 :: kv) ++ rest = 34 :: (jsonEsc k ++ 34 :: 58 :: 32 :: (kv ++ rest)) := by
      simp only [jsonStr, List.append_assoc, List.cons_append, List.nil_append]
    simp only [List.length_cons, List.length_append] at hf
    rw [e]
    obtain ⟨f, rfl⟩ : ∃ f, fuel = f + 1 := ⟨fuel - 1, by omega⟩
    exact js_parseMember_step hk (hv.reads rest f hr (by omega))

mutual
theorem reads_render : ∀ (v : JVal) (ind : Nat), ScalarVal v → Reads parseVal (v.render ind) v
  | .str s, _, h => by rw [JVal.render]; exact reads_str h
  | .num k, _, _ => by rw [JVal.render]; exact reads_num k
  | .negInf, _, _ => by rw [JVal.render]; exact reads_negInf
  | .arr [], _, _ => by rw [JVal.render]; exact bracket_arr.reads_nil
  | .arr (x :: xs), ind, h => by
    have h : ScalarVal x ∧ ScalarItems xs := h
    rw [JVal.render]
    simpa only [List.append_assoc, List.cons_append, List.nil_append] using
      bracket_arr.reads_cons (reads_render x (ind + 4) h.1) (reads_items xs (ind + 4) h.2) (ind + 4) ind
  | .obj [], _, _ => by rw [JVal.render]; exact bracket_obj.reads_nil
  | .obj ((k, v) :: ms), ind, h => by
    have h : ScalarStr k ∧ ScalarVal v ∧ ScalarMembers ms := h
    rw [JVal.render]
    simpa only [List.append_assoc, List.cons_append, List.nil_append] using
      bracket_obj.reads_cons (reads_member h.1 (reads_render v (ind + 4) h.2.1)) (reads_members ms (ind + 4) h.2.2)
        (ind + 4) ind
theorem reads_items : ∀ (xs : List JVal) (ind : Nat), ScalarItems xs → ReadsMore parseItems 93 (renderItems ind xs) xs
  | [], _, _ => bracket_arr.more_nil
  | x :: xs, ind, h => by
    have h : ScalarVal x ∧ ScalarItems xs := h
    rw [renderItems]
    simpa only [List.append_assoc, List.cons_append, List.nil_append] using
      bracket_arr.more_cons (reads_render x ind h.1) (reads_items xs ind h.2) ind
theorem reads_members : ∀ (ms : List (Str × JVal)) (ind : Nat), ScalarMembers ms →
    ReadsMore parseMembers 125 (renderMembers ind ms) ms
  | [], _, _ => bracket_obj.more_nil
  | (k, v) :: ms, ind, h => by
    have h : ScalarStr k ∧ ScalarVal v ∧ ScalarMembers ms := h
    rw [renderMembers]
    simpa only [List.append_assoc, List.cons_append, List.nil_append] using
      bracket_obj.more_cons (reads_member h.1 (reads_render v ind h.2.1)) (reads_members ms ind h.2.2) ind
end

/-- `w`: for the newline `print` adds after the text -/
theorem js_parseJson (v : JVal) (ind : Nat) (h : ScalarVal v) {w : Str} (hw : ∀ c ∈ w, jsonWs c = true) :
    parseJson (v.render ind ++ w) = some v := by
  have hd : NoDigitHead w := by
    cases w with
    | nil => trivial
    | cons c r =>
      have := hw c List.mem_cons_self
      simp only [jsonWs, Bool.or_eq_true, beq_iff_eq] at this
      simp only [NoDigitHead, jsonDigit, Bool.and_eq_false_iff, decide_eq_false_iff_not]
      omega
  have hs := js_skipWs_append hw []
  rw [List.append_nil] at hs
  simp only [parseJson, (reads_render v ind h).reads w _ hd (List.length_append ▸ Nat.le_add_right _ _), hs, jsonSkipWs, List.isEmpty_nil, if_true]

theorem js_roundtrip (v : JVal) (ind : Nat) (h : ScalarVal v) : parseJson (v.render ind) = some v := by
  simpa using js_parseJson v ind h (w := []) (fun _ hc => by cases hc)

/-! `Reads.reads` and `ReadsMore.reads` of the rendered text with the fuel bounded by the length of the whole text read,
    as `parseJson` hands it over (`s.length + 1`); they have no user. -/

theorem js_parse_val (v : JVal) (ind : Nat) (rest : Str) (fuel : Nat) (hv : ScalarVal v) (hr : NoDigitHead rest)
    (hf : (JVal.render ind v ++ rest).length < fuel) : parseVal fuel (JVal.render ind v ++ rest) = some (v, rest) := by
  rw [List.length_append] at hf
  obtain ⟨f, rfl⟩ : ∃ f, fuel = f + 1 := ⟨fuel - 1, by omega⟩
  exact (reads_render v ind hv).reads rest f hr (by omega)

theorem js_parse_member : ∀ (k : Str) (v : JVal) (ind : Nat) (R : Str) (fuel : Nat), ScalarStr k → ScalarVal v →
    NoDigitHead R → (JVal.render ind v ++ R).length + 1 < fuel →
    parseMember fuel (34 :: (jsonEsc k ++ 34 :: 58 :: 32 :: (JVal.render ind v ++ R))) = some ((k, v), R) := by
  intro k v ind R fuel hk hv hR hf
  obtain ⟨f, rfl⟩ : ∃ f, fuel = f + 1 := ⟨fuel - 1, by omega⟩
  exact js_parseMember_step hk (js_parse_val v ind R f hv hR (by omega))

theorem js_parse_items : ∀ (xs : List JVal) (ind n : Nat) (rest : Str) (fuel : Nat), ScalarItems xs →
    (renderItems ind xs ++ (newlineIndent n ++ 93 :: rest)).length < fuel →
    parseItems fuel (renderItems ind xs ++ (newlineIndent n ++ 93 :: rest)) = some (xs, rest) := by
  intro xs ind n rest fuel hs hf
  rw [List.length_append] at hf
  obtain ⟨f, rfl⟩ : ∃ f, fuel = f + 1 := ⟨fuel - 1, by omega⟩
  exact (reads_items xs ind hs).reads n rest f (by omega)

theorem js_parse_members : ∀ (ms : List (Str × JVal)) (ind n : Nat) (rest : Str) (fuel : Nat), ScalarMembers ms →
    (renderMembers ind ms ++ (newlineIndent n ++ 125 :: rest)).length < fuel →
    parseMembers fuel (renderMembers ind ms ++ (newlineIndent n ++ 125 :: rest)) = some (ms, rest) := by
  intro ms ind n rest fuel hs hf
  rw [List.length_append] at hf
  obtain ⟨f, rfl⟩ : ∃ f, fuel = f + 1 := ⟨fuel - 1, by omega⟩
  exact (reads_members ms ind hs).reads n rest f (by omega)

/-- printable ASCII or a newline: what `json.dumps(·, indent=4)` can write -/
def Ascii (s : Str) : Prop := ∀ c ∈ s, c = 10 ∨ (32 ≤ c ∧ c ≤ 126)

instance (s : Str) : Decidable (Ascii s) := by unfold Ascii; infer_instance

theorem ascii_append {a b : Str} : Ascii (a ++ b) ↔ Ascii a ∧ Ascii b := List.forall_mem_append

theorem ascii_of_digits {s : Str} (h : ∀ c ∈ s, 48 ≤ c ∧ c ≤ 57) : Ascii s :=
  fun c hc => Or.inr ⟨by have := h c hc; omega, by have := h c hc; omega⟩

theorem ascii_newlineIndent (n : Nat) : Ascii (newlineIndent n) := by
  intro c hc
  simp only [newlineIndent, List.mem_cons, List.mem_replicate] at hc
  rcases hc with rfl | ⟨_, rfl⟩
  · exact Or.inl rfl
  · exact Or.inr (by decide)

theorem ascii_hex4 (n : Nat) : Ascii (hex4 n) := by
  have hd : ∀ d, d < 16 → 32 ≤ hexDigit d ∧ hexDigit d ≤ 126 := by decide
  intro c hc
  simp only [hex4, List.mem_cons, List.not_mem_nil, or_false] at hc
  rcases hc with rfl | rfl | rfl | rfl <;> exact Or.inr (hd _ (Nat.mod_lt _ (by decide)))

theorem ascii_escShape {c : Nat} {e : Str} (h : EscShape c e) : Ascii e := by
  cases h with
  | short e he _ =>
    intro x hx
    simp only [List.mem_cons, List.not_mem_nil, or_false] at hx
    omega
  | plain h _ _ =>
    intro x hx
    rw [List.mem_singleton.1 hx]
    exact Or.inr h
  | bmp _ => exact ascii_append.2 ⟨by decide, ascii_hex4 _⟩
  | pair _ => exact ascii_append.2 ⟨ascii_append.2 ⟨ascii_append.2 ⟨by decide, ascii_hex4 _⟩, by decide⟩, ascii_hex4 _⟩

theorem ascii_esc : ∀ s : Str, Ascii (jsonEsc s)
  | [] => fun _ h => nomatch h
  | c :: cs => ascii_append.2 ⟨ascii_escShape (jsonEscChar_shape c), ascii_esc cs⟩

theorem ascii_jsonStr (s : Str) : Ascii (jsonStr s) :=
  ascii_append.2 ⟨ascii_append.2 ⟨by decide, ascii_esc s⟩, by decide⟩

theorem ascii_float (k : Int) : Ascii (jsonFloat k) := by
  rw [js_float_eq]
  have hfrac : Ascii (fracStr (k.natAbs % 64)) :=
    ascii_of_digits fun c hc => js_digit_iff.1 ((js_frac_table _ (Nat.mod_lt _ (by decide))).1 c hc)
  -- `List.forall_mem_cons` for the point: matching `46 :: fracStr _` against `[46] ++ _` would unfold `fracStr`
  refine ascii_append.2 ⟨?_, ascii_append.2 ⟨ascii_of_digits (Str.ofNat_digits _),
    List.forall_mem_cons.2 ⟨by decide, hfrac⟩⟩⟩
  split <;> decide

mutual
theorem ascii_render : ∀ (v : JVal) (ind : Nat), Ascii (v.render ind)
  | .str s, ind => by rw [JVal.render]; exact ascii_jsonStr s
  | .num k, ind => by rw [JVal.render]; exact ascii_float k
  | .negInf, ind => by rw [JVal.render, js_lit_negInf]; decide
  | .arr [], ind => by rw [JVal.render]; decide
  | .arr (x :: xs), ind => by
    rw [JVal.render]
    simp only [ascii_append, and_assoc]
    exact ⟨by decide, ascii_newlineIndent _, ascii_render x _, ascii_renderItems xs _, ascii_newlineIndent _, by decide⟩
  | .obj [], ind => by rw [JVal.render]; decide
  | .obj ((k, v) :: ms), ind => by
    rw [JVal.render]
    simp only [ascii_append, and_assoc]
    exact ⟨by decide, ascii_newlineIndent _, ascii_jsonStr k, by decide, ascii_render v _, ascii_renderMembers ms _,
      ascii_newlineIndent _, by decide⟩
theorem ascii_renderItems : ∀ (xs : List JVal) (ind : Nat), Ascii (renderItems ind xs)
  | [], ind => by rw [renderItems]; decide
  | x :: xs, ind => by
    rw [renderItems]
    simp only [ascii_append, and_assoc]
    exact ⟨by decide, ascii_newlineIndent _, ascii_render x _, ascii_renderItems xs _⟩
theorem ascii_renderMembers : ∀ (ms : List (Str × JVal)) (ind : Nat), Ascii (renderMembers ind ms)
  | [], ind => by rw [renderMembers]; decide
  | (k, v) :: ms, ind => by
    rw [renderMembers]
    simp only [ascii_append, and_assoc]
    exact ⟨by decide, ascii_newlineIndent _, ascii_jsonStr k, by decide, ascii_render v _, ascii_renderMembers ms _⟩
end

instance (s : Str) : Decidable (ScalarStr s) := by unfold ScalarStr; infer_instance

theorem setMember_eq : ∀ (ms : List (Str × JVal)) (k : Str) (v : JVal), setMember ms k v = Dict.set ms k v
  | [], _, _ => rfl
  | _ :: ms, k, v => by simp only [setMember, Dict.set, setMember_eq ms]

theorem jsonGet_eq : ∀ (ms : List (Str × JVal)) (k : Str), jsonGet ms k = Dict.get? ms k
  | [], _ => rfl
  | _ :: ms, k => by simp only [jsonGet, Dict.get?, jsonGet_eq ms]

def strMembers (fs : List (Str × Str)) : List (Str × JVal) := fs.map fun p => (p.1, JVal.str p.2)

theorem js_jsonMembers_leaf (c : Cat) (tok : Token) (a b : Str) :
    jsonMembers (.leaf c tok a b) = strMembers (Dict.set tok (lit "cat") c.str) := by
  rw [jsonMembers, setMember_eq]
  exact C06.set_map JVal.str tok _ _

theorem js_erase_set : ∀ (ms : List (Str × JVal)) (k : Str) (v : JVal), Dict.get? ms k = none →
    jsonErase (Dict.set ms k v) k = ms
  | [], k, v, _ => by simp [Dict.set, jsonErase]
  | (k', v') :: rest, k, v, h => by
    rw [C06.get?_cons] at h
    split at h
    · cases h
    · next hk =>
      have ih := js_erase_set rest k v h
      simp only [jsonErase] at ih
      simp only [Dict.set, hk, if_false, jsonErase, List.filter_cons, bne_iff_ne, ne_eq, not_false_eq_true, if_true, ih]

theorem scalarItems_iff : ∀ {xs : List JVal}, ScalarItems xs ↔ ∀ x ∈ xs, ScalarVal x
  | [] => by simp [ScalarItems]
  | x :: xs => by simp only [ScalarItems, List.forall_mem_cons, scalarItems_iff (xs := xs)]

theorem scalarMembers_iff : ∀ {ms : List (Str × JVal)}, ScalarMembers ms ↔ ∀ p ∈ ms, ScalarStr p.1 ∧ ScalarVal p.2
  | [] => by simp [ScalarMembers]
  | (k, v) :: ms => by simp only [ScalarMembers, List.forall_mem_cons, scalarMembers_iff (ms := ms), and_assoc]

theorem scalar_setMember {ms : List (Str × JVal)} {k : Str} {v : JVal} (h : ScalarMembers ms) (hv : ScalarVal v)
    (hk : ScalarStr k := by decide) : ScalarMembers (setMember ms k v) := by
  rw [setMember_eq, scalarMembers_iff]
  intro p hp
  rcases C06.mem_set hp with rfl | hp
  · exact ⟨hk, hv⟩
  · exact scalarMembers_iff.1 h p hp

theorem scalar_jsonMembers : ∀ (t : Tree), TreeOK t → ScalarMembers (jsonMembers t)
  | .leaf c tok _ _, h => by
    rw [jsonMembers]
    refine scalar_setMember (scalarMembers_iff.2 fun p hp => ?_) h.1
    obtain ⟨q, hq, rfl⟩ := List.mem_map.1 hp
    exact h.2.1 q hq
  | .un c s _ ch, h => by
    have ih := scalar_jsonMembers ch h.2.2
    simp only [jsonMembers, ScalarMembers, ScalarVal, ScalarItems]
    exact ⟨by decide, h.2.1, by decide, h.1, by decide, ⟨ih, trivial⟩, trivial⟩
  | .bin c s _ _ l r, h => by
    have ihl := scalar_jsonMembers l h.2.2.1
    have ihr := scalar_jsonMembers r h.2.2.2
    simp only [jsonMembers, ScalarMembers, ScalarVal, ScalarItems]
    exact ⟨by decide, h.2.1, by decide, h.1, by decide, ⟨ihl, ihr, trivial⟩, trivial⟩

theorem scalar_scoreVal (sc : Option Int) : ScalarVal (scoreVal sc) := by
  cases sc <;> trivial

theorem scalar_sentences : ∀ (nbest : List (List (Tree × Option Int))) (i : Nat), BatchOK nbest →
    ScalarMembers (jsonSentences i nbest)
  | [], i, _ => trivial
  | ts :: rest, i, h => by
    refine ⟨fun c hc => ?_, scalarItems_iff.2 fun x hx => ?_,
      scalar_sentences rest (i + 1) (fun q hq => h q (List.mem_cons_of_mem _ hq))⟩
    · have := Str.ofNat_digits i c hc
      omega
    · obtain ⟨p, hp, rfl⟩ := List.mem_map.1 hx
      exact scalar_setMember (scalar_jsonMembers p.1 (h ts List.mem_cons_self p hp)) (scalar_scoreVal p.2)

theorem js_treeMembers_str : ∀ (fs : List (Str × Str)), Dict.get? fs (lit "children") = none →
    jsonTreeMembers (strMembers fs) = some (fs, none)
  | [], _ => rfl
  | (k, v) :: rest, h => by
    rw [C06.get?_cons] at h
    split at h
    · cases h
    · next hk =>
      have ih := js_treeMembers_str rest h
      simp only [strMembers, List.map_cons] at ih ⊢
      simp only [jsonTreeMembers, ih, hk, if_false, jsonAddField]

theorem js_node_no_logprob (a b c : JVal) :
    jsonGet [(lit "type", a), (lit "cat", b), (lit "children", c)] (lit "log_prob") = none := by
  simp only [jsonGet, (by decide_lit : ¬ lit "type" = lit "log_prob"), (by decide_lit : ¬ lit "cat" = lit "log_prob"),
    (by decide_lit : ¬ lit "children" = lit "log_prob"), if_false]

theorem js_no_logprob : ∀ (t : Tree), TreeOK t → jsonGet (jsonMembers t) (lit "log_prob") = none
  | .leaf c tok a b, h => by
    rw [js_jsonMembers_leaf, jsonGet_eq, strMembers, C06.get?_map, C06.get?_set_ne (by decide), h.2.2.2]
    rfl
  | .un .., _ => js_node_no_logprob _ _ _
  | .bin .., _ => js_node_no_logprob _ _ _

theorem js_treeOf_node (s c : Str) {kids : List JVal} {ts : List JTree} (h : jsonTreeItems kids = some ts) :
    jsonTreeOf (.obj [(lit "type", .str s), (lit "cat", .str c), (lit "children", .arr kids)]) =
      some (.node s c ts) := by
  rw [jsonTreeOf]
  simp only [jsonTreeMembers, h, if_true, if_false, (by decide_lit : ¬ lit "type" = lit "children"),
    (by decide_lit : ¬ lit "cat" = lit "children"), Dict.get?, (by decide_lit : ¬ lit "type" = lit "cat"), jsonAddField,
    jsonAddKids]

theorem js_treeOf : ∀ (t : Tree), TreeOK t → jsonTreeOf (.obj (jsonMembers t)) = some (jsonOf t)
  | .leaf c tok a b, h => by
    have hc : Dict.get? (Dict.set tok (lit "cat") c.str) (lit "children") = none := by
      rw [C06.get?_set_ne (by decide), h.2.2.1]
    rw [js_jsonMembers_leaf, jsonTreeOf, js_treeMembers_str _ hc]
    rfl
  | .un c s y ch, h => by
    rw [jsonMembers, jsonOf]
    exact js_treeOf_node s c.str (by simp only [jsonTreeItems, js_treeOf ch h.2.2])
  | .bin c s y hd l r, h => by
    rw [jsonMembers, jsonOf]
    exact js_treeOf_node s c.str (by simp only [jsonTreeItems, js_treeOf l h.2.2.1, js_treeOf r h.2.2.2])

theorem js_readEntry (p : Tree × Option Int) (h : TreeOK p.1) :
    jsonReadEntry (jsonEntry p) = some (jsonOf p.1, p.2) := by
  obtain ⟨t, sc⟩ := p
  have hn := js_no_logprob t h
  rw [jsonGet_eq] at hn
  cases sc <;>
    simp only [jsonEntry, jsonReadEntry, scoreVal, setMember_eq, jsonGet_eq, C06.get?_set_self, js_erase_set _ _ _ hn,
      js_treeOf t h, Option.map_some]

theorem js_readEntries : ∀ (ts : List (Tree × Option Int)), (∀ p ∈ ts, TreeOK p.1) →
    jsonReadEntries (ts.map jsonEntry) = some (ts.map fun p => (jsonOf p.1, p.2))
  | [], _ => rfl
  | p :: ts, h => by
    simp only [List.map_cons, jsonReadEntries, js_readEntry p (h p (List.mem_cons_self ..)),
      js_readEntries ts (fun q hq => h q (List.mem_cons_of_mem _ hq))]

theorem js_readSentences : ∀ (nbest : List (List (Tree × Option Int))) (i : Nat), BatchOK nbest →
    jsonReadSentences (jsonSentences i nbest) = some (expected i nbest)
  | [], i, _ => rfl
  | ts :: rest, i, h => by
    simp only [jsonSentences, jsonReadSentences, C07.cn_conllNat_ofNat,
      js_readEntries ts (h ts (List.mem_cons_self ..)),
      js_readSentences rest (i + 1) (fun q hq => h q (List.mem_cons_of_mem _ hq)), expected]

theorem js_readJsonOutput (nbest : List (List (Tree × Option Int))) (h : BatchOK nbest) (w : Str)
    (hw : ∀ c ∈ w, jsonWs c = true) : readJsonOutput (jsonText nbest ++ w) = some (expected 1 nbest) := by
  unfold readJsonOutput jsonText
  rw [js_parseJson (jsonValue nbest) 0 (scalar_sentences nbest 1 h) hw]
  exact js_readSentences nbest 1 h

theorem js_text_decode (nbest : List (List (Tree × Option Int))) (h : BatchOK nbest) :
    readJsonOutput (jsonText nbest) = some (expected 1 nbest) := by
  simpa using js_readJsonOutput nbest h [] (fun _ hc => by cases hc)

instance (tok : Token) : Decidable (ScalarTok tok) := by unfold ScalarTok; infer_instance

def treeOKDec : (t : Tree) → Decidable (TreeOK t)
  | .leaf .. => by unfold TreeOK; infer_instance
  | .un _ _ _ ch => by
    unfold TreeOK
    have := treeOKDec ch
    infer_instance
  | .bin _ _ _ _ l r => by
    unfold TreeOK
    have := treeOKDec l
    have := treeOKDec r
    infer_instance

instance (t : Tree) : Decidable (TreeOK t) := treeOKDec t
instance (b : List (List (Tree × Option Int))) : Decidable (BatchOK b) := by unfold BatchOK; infer_instance

end Depccg.C07Json
