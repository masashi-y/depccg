/-
  Lemmas for C15 at the level of files: the `<ccg>` records of `xmlOf` against the trees of the
  batch; the `score` attribute is invisible to `readJiggSentence`; `sentence_roundtrip` along the
  sentences of a batch.
-/
import Depccg.Props.C15FileDefs
import Depccg.Proofs.C15Lemmas
import Depccg.Proofs.ExceptLemmas

namespace Depccg.C15File
open Depccg Str Xml TextProps C15

theorem cf_zipIdx_trees (si : Nat) : ∀ (trees : List Tree) (k : Nat),
    FileProps.Forall2 (fun (t : Tree) (c : CcgElem) => c.tree = (xmlTree t 0).1) trees
      ((trees.zipIdx k).map fun (t, ti) => (⟨si, ti + 1, (xmlTree t 0).1⟩ : CcgElem))
  | [], _ => .nil
  | t :: ts, k => by
    rw [List.zipIdx_cons, List.map_cons]
    exact .cons rfl (cf_zipIdx_trees si ts (k + 1))

theorem cf_xmlOfAux_trees : ∀ (batch : List (List Tree)) (si : Nat),
    FileProps.Forall2 (fun (t : Tree) (c : CcgElem) => c.tree = (xmlTree t 0).1) batch.flatten (xmlOfAux batch si)
  | [], _ => .nil
  | trees :: rest, si => by
    rw [List.flatten_cons, xmlOfAux]
    exact (cf_zipIdx_trees si trees 0).append (cf_xmlOfAux_trees rest (si + 1))

theorem cf_go_scores (lang : Lang) (toks : List (Str × Token)) : ∀ (cs : List JCcg) (sc : List (Option Int)),
    readJiggSentence.go lang toks (withScores cs sc) = readJiggSentence.go lang toks cs
  | [], [] => rfl
  | [], _ :: _ => rfl
  | _ :: _, [] => rfl
  | c :: cs, s :: sc => by
    rw [withScores, readJiggSentence.go, readJiggSentence.go, cf_go_scores lang toks cs sc]
    have hroot : getAttr (setAttr c.attrs (lit "score") (scoreAttr s)) (lit "root") = getAttr c.attrs (lit "root") := by
      unfold getAttr setAttr
      rw [C06.get?_set_ne (by decide)]
    simp only [hroot]

theorem cf_sentence_scores (lang : Lang) (toks : List Attrs) (cs : List JCcg) (sc : List (Option Int)) :
    readJiggSentence lang { tokens := toks, ccgs := withScores cs sc } =
      readJiggSentence lang { tokens := toks, ccgs := cs } := by
  unfold readJiggSentence
  cases readJiggTokens toks with
  | error e => rfl
  | ok tk => exact cf_go_scores lang tk cs sc

theorem cf_batch_scores (lang : Lang) : ∀ (ss : List JSentence) (scs : List (List (Option Int))),
    Cli.mapExcept (fun s : JSentence => readJiggSentence lang s) (withScoresAll ss scs) =
      Cli.mapExcept (fun s : JSentence => readJiggSentence lang s) ss
  | [], [] => rfl
  | [], _ :: _ => rfl
  | _ :: _, [] => rfl
  | s :: ss, sc :: scs => by
    simp only [withScoresAll, Cli.mapExcept, cf_sentence_scores, cf_batch_scores lang ss scs]

theorem cf_jigg_batch : ∀ (batch : List (List Tree)) (sid : Nat) (ss : List JSentence),
    (∀ ts ∈ batch, ts ≠ [] ∧
      (∀ t ∈ ts, AllCats C05.WF t ∧ AllCats C14.AllTernary t ∧ AllToks JiggTokOK t) ∧
      (∀ t ∈ ts, ∀ t' ∈ ts, t.tokens = t'.tokens)) →
    jiggOfAux true batch sid = .ok ss →
    ∃ rss, Cli.mapExcept (fun s : JSentence => readJiggSentence .ja s) ss = .ok rss ∧
      rss.flatten.map (fun r => shapeWords r.1) = batch.flatten.map shapeWords
  | [], _, ss, _, h => by
    cases h
    exact ⟨[], rfl, rfl⟩
  | [] :: _, _, _, hall, _ => absurd rfl (hall [] List.mem_cons_self).1
  | (t :: ts) :: rest, sid, ss, hall, h => by
    obtain ⟨more, hmore, rfl⟩ := jiggOfAux_cons.1 h
    obtain ⟨_, h1, h2⟩ := hall (t :: ts) List.mem_cons_self
    obtain ⟨rs, hrs, hmap⟩ := sentence_roundtrip sid t ts h1 h2
    obtain ⟨rss, hrss, hmaps⟩ := cf_jigg_batch rest (sid + 1) more
      (fun ts' hts' => hall ts' (List.mem_cons_of_mem _ hts')) hmore
    exact ⟨rs :: rss, Cli.mapExcept_cons_ok hrs hrss, by
      rw [List.flatten_cons, List.map_append, hmap, hmaps, List.flatten_cons, List.map_append]⟩

end Depccg.C15File
