/-
  Lemmas for C15 / text: the XML reader `Read.parseXml` on the text `Xml.Elem.render` writes, and the way
  back from the element tree to the `<ccg>` records and the Jigg sentences.
-/
import Depccg.Props.C15TextDefs
import Depccg.Proofs.XmlAttrLemmas

namespace Depccg.C15Text
open Depccg Str Xml Read

theorem xt_skipWs_eq (s : Str) : xmlSkipWs s = s.dropWhile xmlWs :=
  skip_eq_dropWhile rfl (fun _ _ => rfl) s

theorem xt_skipWs_ws {c : Nat} (s : Str) (h : xmlWs c = true) : xmlSkipWs (c :: s) = xmlSkipWs s := by
  rw [xt_skipWs_eq, xt_skipWs_eq, List.dropWhile_cons_of_pos h]

theorem xt_skipWs_cons {c : Nat} {r : Str} (h : xmlWs c = false) : xmlSkipWs (c :: r) = c :: r := by
  rw [xt_skipWs_eq, dropWhile_stops (s := c :: r) h]

theorem xt_skipWs_indent (n : Nat) (s : Str) : xmlSkipWs (indent n ++ s) = xmlSkipWs s := by
  rw [xt_skipWs_eq, xt_skipWs_eq,
    List.dropWhile_append_of_pos fun c hc => by rw [List.eq_of_mem_replicate hc]; rfl]

instance (s : Str) : Decidable (NameOK s) := by unfold NameOK; infer_instance

theorem xt_nameChar_of {c : Nat}
    (h : c ≠ 32 ∧ c ≠ 9 ∧ c ≠ 10 ∧ c ≠ 13 ∧ c ≠ 61 ∧ c ≠ 60 ∧ c ≠ 62 ∧ c ≠ 47 ∧ c ≠ 34 ∧ c ≠ 39 ∧ c ≠ 38) :
    xmlNameChar c = true := by
  obtain ⟨h1, h2, h3, h4, h5, h6, h7, h8, h9, h10, h11⟩ := h
  simp [xmlNameChar, xmlWs, h1, h2, h3, h4, h5, h6, h7, h8, h9, h10, h11]

theorem xt_nameChar_notWs {c : Nat} (h : xmlNameChar c = true) : xmlWs c = false := by
  cases hw : xmlWs c
  · rfl
  · rw [xmlNameChar, hw] at h
    cases h

theorem xt_readName {n : Str} (hn : NameOK n) (rest : Str) (hr : Stops xmlNameChar rest) :
    xmlReadName (n ++ rest) = some (n, rest) := by
  obtain ⟨h1, h2⟩ := span_stops (fun c hc => xt_nameChar_of (hn.2 c hc)) hr
  unfold xmlReadName
  rw [h1, h2]
  cases n with
  | nil => exact absurd rfl hn.1
  | cons c n => rfl

theorem xt_name_head {n : Str} (hn : NameOK n) :
    ∃ c r, n = c :: r ∧ xmlWs c = false ∧ c ≠ 62 ∧ c ≠ 47 := by
  cases n with
  | nil => exact absurd rfl hn.1
  | cons c r =>
    have h := hn.2 c (List.mem_cons_self ..)
    exact ⟨c, r, rfl, xt_nameChar_notWs (xt_nameChar_of h), h.2.2.2.2.2.2.1, h.2.2.2.2.2.2.2.1⟩

theorem xt_readUntil (q : Nat) : ∀ (v rest : Str), q ∉ v → xmlReadUntil q (v ++ q :: rest) = some (v, rest)
  | [], rest, _ => by simp [xmlReadUntil]
  | c :: cs, rest, h => by
    have hc : ¬ c = q := fun e => h (e ▸ List.mem_cons_self ..)
    have ih := xt_readUntil q cs rest (fun m => h (List.mem_cons_of_mem _ m))
    simp only [List.cons_append, xmlReadUntil, hc, if_false, ih]

/-- the seven characters libxml2 escapes in an attribute value, each with the name of its reference -/
def escRefs : List (Nat × Str) :=
  [(38, [97, 109, 112]), (60, [108, 116]), (62, [103, 116]), (34, [113, 117, 111, 116]),
   (9, [35, 57]), (10, [35, 49, 48]), (13, [35, 49, 51])]

theorem esc_table : ∀ p ∈ escRefs, escAttrChar p.1 = 38 :: (p.2 ++ [59]) ∧ xmlRef p.2 = some p.1 ∧
    ∀ d ∈ p.2, d ≠ 59 ∧ d ≠ 60 ∧ d ≠ 34 ∧ d ≠ 9 ∧ d ≠ 10 ∧ d ≠ 13 := by
  decide +kernel

theorem escAttrChar_cases (c : Nat) :
    (escAttrChar c = [c] ∧ c ≠ 38 ∧ c ≠ 60 ∧ c ≠ 34 ∧ c ≠ 9 ∧ c ≠ 10 ∧ c ≠ 13) ∨
    ∃ name, escAttrChar c = 38 :: (name ++ [59]) ∧ xmlRef name = some c ∧
      ∀ d ∈ name, d ≠ 59 ∧ d ≠ 60 ∧ d ≠ 34 ∧ d ≠ 9 ∧ d ≠ 10 ∧ d ≠ 13 := by
  by_cases h : c ∈ escRefs.map (·.1)
  · obtain ⟨p, hp, rfl⟩ := List.mem_map.1 h
    exact Or.inr ⟨p.2, esc_table p hp⟩
  · simp only [escRefs, List.map_cons, List.map_nil, List.mem_cons, List.not_mem_nil, or_false, not_or] at h
    exact Or.inl ⟨by simp only [escAttrChar, h, if_false], h.1, h.2.1, h.2.2.2.1, h.2.2.2.2⟩

theorem xt_escChar_safe (x : Nat) : ∀ c ∈ escAttrChar x, c ≠ 60 ∧ c ≠ 34 ∧ c ≠ 9 ∧ c ≠ 10 ∧ c ≠ 13 := by
  intro c hc
  rcases escAttrChar_cases x with ⟨he, hx⟩ | ⟨name, he, _, hn⟩ <;> rw [he] at hc
  · rw [List.mem_singleton] at hc
    subst hc
    exact hx.2
  · simp only [List.mem_cons, List.mem_append, List.not_mem_nil, or_false] at hc
    rcases hc with rfl | hc | rfl
    · decide
    · exact (hn c hc).2
    · decide

theorem xt_esc_safe : ∀ (s : Str), ∀ c ∈ escAttr s, c ≠ 60 ∧ c ≠ 34 ∧ c ≠ 9 ∧ c ≠ 10 ∧ c ≠ 13
  | [], c, hc => by cases hc
  | x :: xs, c, hc => by
    rw [escAttr, List.mem_append] at hc
    rcases hc with h | h
    · exact xt_escChar_safe x c h
    · exact xt_esc_safe xs c h

theorem xt_esc_length : ∀ (s : Str), s.length ≤ (escAttr s).length
  | [] => Nat.le_refl _
  | c :: cs => by
    have ih := xt_esc_length cs
    have : 1 ≤ (escAttrChar c).length := by
      rcases escAttrChar_cases c with ⟨he, _⟩ | ⟨name, he, _⟩ <;> rw [he] <;> exact Nat.le_add_left ..
    simp only [escAttr, List.length_cons, List.length_append]
    omega

theorem xt_unesc_ref {name : Str} {x : Nat} (h59 : 59 ∉ name) (hr : xmlRef name = some x) (fuel : Nat) (tail : Str) :
    unescAux (fuel + 1) (38 :: (name ++ 59 :: tail)) = (unescAux fuel tail).map (x :: ·) := by
  simp only [unescAux, if_true, xt_readUntil 59 name tail h59, hr]
  cases unescAux fuel tail <;> rfl

theorem xt_unesc_step (c fuel : Nat) (tail : Str) :
    unescAux (fuel + 1) (escAttrChar c ++ tail) = (unescAux fuel tail).map (c :: ·) := by
  rcases escAttrChar_cases c with ⟨he, h38, h60, _, h9⟩ | ⟨name, he, hr, hn⟩ <;> rw [he]
  · have hws : ¬ (c = 9 ∨ c = 10 ∨ c = 13) := fun h => by omega
    simp only [List.cons_append, List.nil_append, unescAux, h38, h60, hws, if_false]
    cases unescAux fuel tail <;> rfl
  · rw [List.cons_append, List.append_assoc]
    exact xt_unesc_ref (fun m => (hn 59 m).1 rfl) hr fuel tail

theorem xt_fuel_succ {n fuel : Nat} (h : n < fuel) : ∃ f, fuel = f + 1 := ⟨fuel - 1, by omega⟩

theorem xt_unesc_aux : ∀ (s : Str) (fuel : Nat), s.length < fuel → unescAux fuel (escAttr s) = some s
  | [], fuel, hf => by
    obtain ⟨f, rfl⟩ := xt_fuel_succ hf
    rfl
  | c :: cs, fuel, hf => by
    obtain ⟨f, rfl⟩ := xt_fuel_succ hf
    rw [escAttr, xt_unesc_step, xt_unesc_aux cs f (Nat.lt_of_succ_lt_succ hf)]
    rfl

theorem xt_unesc_esc (s : Str) : unescAttr (escAttr s) = some s := by
  unfold unescAttr
  exact xt_unesc_aux s _ (by have := xt_esc_length s; omega)

theorem xt_renderAttrs_length : ∀ (a : Attrs), a.length ≤ (renderAttrs a).length
  | [] => Nat.le_refl _
  | (k, v) :: rest => by
    have := xt_renderAttrs_length rest
    simp only [renderAttrs, List.length_cons, List.length_append]
    omega

theorem xt_renderAttrs_cons (k v : Str) (rest : Attrs) (T : Str) :
    renderAttrs ((k, v) :: rest) ++ T = 32 :: (k ++ 61 :: 34 :: (escAttr v ++ 34 :: (renderAttrs rest ++ T))) := by
  simp [renderAttrs, cSpace, cEq]

theorem xt_parseAttrs_cons (f : Nat) {k : Str} (v R : Str) {as : Attrs} {sc : Bool} {r5 : Str} (hk : NameOK k)
    (h : parseAttrs f R = some (as, sc, r5)) :
    parseAttrs (f + 1) (32 :: (k ++ 61 :: 34 :: (escAttr v ++ 34 :: R))) = some ((k, v) :: as, sc, r5) := by
  obtain ⟨c, k', rfl, hws, h62, h47⟩ := xt_name_head hk
  have h1 : xmlSkipWs (32 :: (c :: k' ++ 61 :: 34 :: (escAttr v ++ 34 :: R))) =
      c :: (k' ++ 61 :: 34 :: (escAttr v ++ 34 :: R)) := by
    rw [xt_skipWs_ws _ (by decide), List.cons_append, xt_skipWs_cons hws]
  have h2 : xmlReadName (c :: (k' ++ 61 :: 34 :: (escAttr v ++ 34 :: R))) =
      some (c :: k', 61 :: 34 :: (escAttr v ++ 34 :: R)) :=
    xt_readName hk _ (show xmlNameChar 61 = false by decide)
  have h3 : ∀ t : Str, xmlSkipWs (61 :: t) = 61 :: t := fun t => xt_skipWs_cons (by decide)
  have h4 : ∀ t : Str, xmlSkipWs (34 :: t) = 34 :: t := fun t => xt_skipWs_cons (by decide)
  have h5 := xt_readUntil 34 (escAttr v) R (fun m => (xt_esc_safe v 34 m).2.1 rfl)
  have h6 : xmlStartsWs (32 :: (c :: k' ++ 61 :: 34 :: (escAttr v ++ 34 :: R))) = true := rfl
  have h7 : parseAttrValue (34 :: (escAttr v ++ 34 :: R)) = some (v, R) := by
    simp only [parseAttrValue, h5, xt_unesc_esc, true_or, if_true]
  have h8 : parseAttr (c :: (k' ++ 61 :: 34 :: (escAttr v ++ 34 :: R))) = some ((c :: k', v), R) := by
    simp only [parseAttr, h2, h3, h4, h7, if_true]
  simp only [parseAttrs, parseAttrsStep, h1, h8, h6, h62, h47, h, if_true, if_false]

theorem xt_parseAttrs_render : ∀ (a : Attrs), AttrsOK a → ∀ (fuel : Nat) (T : Str) (sc : Bool) (r : Str),
    a.length < fuel → (∀ f, parseAttrs (f + 1) T = some ([], sc, r)) →
    parseAttrs fuel (renderAttrs a ++ T) = some (a, sc, r)
  | [], _, fuel, T, sc, r, hf, hT => by
    obtain ⟨f, rfl⟩ := xt_fuel_succ hf
    exact hT f
  | (k, v) :: rest, ha, fuel, T, sc, r, hf, hT => by
    obtain ⟨f, rfl⟩ := xt_fuel_succ hf
    rw [xt_renderAttrs_cons]
    exact xt_parseAttrs_cons f v _ (ha (k, v) (List.mem_cons_self ..))
      (xt_parseAttrs_render rest (fun kv hkv => ha kv (List.mem_cons_of_mem _ hkv)) f T sc r
        (Nat.lt_of_succ_lt_succ hf) hT)

theorem xt_parseAttrs_close (f : Nat) (r : Str) : parseAttrs (f + 1) (62 :: r) = some ([], false, r) := by
  simp only [parseAttrs, parseAttrsStep, xt_skipWs_cons (show xmlWs 62 = false by decide), if_true]

theorem xt_parseAttrs_empty (f : Nat) (r : Str) : parseAttrs (f + 1) (47 :: 62 :: r) = some ([], true, r) := by
  simp only [parseAttrs, parseAttrsStep, xt_skipWs_cons (show xmlWs 47 = false by decide), if_true, if_false,
    (by decide : ¬ (47 : Nat) = 62)]

theorem xt_stops_attrs (a : Attrs) (T : Str) (hT : Stops xmlNameChar T) : Stops xmlNameChar (renderAttrs a ++ T) := by
  cases a with
  | nil => exact hT
  | cons kv rest =>
    obtain ⟨k, v⟩ := kv
    rw [xt_renderAttrs_cons]
    show xmlNameChar 32 = false
    decide

theorem xt_startTag {tag : Str} {a : Attrs} (ht : NameOK tag) (ha : AttrsOK a) (T : Str) {r : Str} {sc : Bool}
    (hN : Stops xmlNameChar T) (hT : ∀ f, parseAttrs (f + 1) T = some ([], sc, r)) :
    xmlReadName (tag ++ (renderAttrs a ++ T)) = some (tag, renderAttrs a ++ T) ∧
      parseAttrs ((renderAttrs a ++ T).length + 1) (renderAttrs a ++ T) = some (a, sc, r) :=
  ⟨xt_readName ht _ (xt_stops_attrs a T hN),
    xt_parseAttrs_render a ha _ T sc r
      (by have := xt_renderAttrs_length a; simp only [List.length_append]; omega) hT⟩

theorem xt_parseEndTag {tag : Str} (ht : NameOK tag) (rest : Str) :
    parseEndTag tag (tag ++ 62 :: rest) = some rest := by
  have h1 := xt_readName ht (62 :: rest) (show xmlNameChar 62 = false by decide)
  simp only [parseEndTag, h1, if_true, xt_skipWs_cons (show xmlWs 62 = false by decide)]

theorem xt_parseElem_leaf {tag : Str} {a : Attrs} (ht : NameOK tag) (ha : AttrsOK a) (f : Nat) (rest : Str) :
    parseElem (f + 1) (60 :: (tag ++ (renderAttrs a ++ 47 :: 62 :: rest))) = some (.mk tag a [], rest) := by
  obtain ⟨h1, h2⟩ := xt_startTag ht ha (47 :: 62 :: rest) (show xmlNameChar 47 = false by decide)
    (fun f => xt_parseAttrs_empty f rest)
  simp only [parseElem, h1, h2, if_true]

theorem xt_parseElem_node {tag body r3 r4 : Str} {a : Attrs} {kids : List Elem} (ht : NameOK tag) (ha : AttrsOK a)
    (f : Nat) (h3 : parseKids f body = some (kids, r3)) (h4 : parseEndTag tag r3 = some r4) :
    parseElem (f + 1) (60 :: (tag ++ (renderAttrs a ++ 62 :: body))) = some (.mk tag a kids, r4) := by
  obtain ⟨h1, h2⟩ := xt_startTag ht ha (62 :: body) (show xmlNameChar 62 = false by decide)
    (fun f => xt_parseAttrs_close f body)
  simp only [parseElem, h1, h2, h3, h4, if_true]

theorem xt_parseKids_nil {s r : Str} (f : Nat) (h1 : xmlSkipWs s = 60 :: 47 :: r) :
    parseKids (f + 1) s = some ([], r) := by
  simp only [parseKids, h1, if_true]

theorem xt_parseKids_cons {s r r1 r2 : Str} {d : Nat} {k : Elem} {ks : List Elem} (f : Nat)
    (h1 : xmlSkipWs s = 60 :: d :: r) (hd : d ≠ 47) (h2 : parseElem f (60 :: d :: r) = some (k, r1))
    (h3 : parseKids f r1 = some (ks, r2)) : parseKids (f + 1) s = some (k :: ks, r2) := by
  simp only [parseKids, h1, hd, h2, h3, if_true, if_false]

/-- the newline that ends the line of a start tag or of a child is white space before the next child -/
theorem xt_parseKids_nl (fuel : Nat) (s : Str) : parseKids fuel (10 :: s) = parseKids fuel s := by
  cases fuel with
  | zero => rfl
  | succ f => simp only [parseKids, xt_skipWs_ws (c := 10) s rfl]

/-- the text of an element after its indentation and before the newline that ends it: what `parseElem` is called
    on, since `parseKids` has skipped the indentation and the newline is white space before the next child
    (`xt_parseKids_nl`) -/
def unindented (ind : Nat) : Elem → Str
  | .mk tag attrs [] => 60 :: (tag ++ (renderAttrs attrs ++ [47, 62]))
  | .mk tag attrs (k :: ks) =>
    60 :: (tag ++ (renderAttrs attrs ++ 62 :: 10 :: (renderKids (ind + 2) (k :: ks) ++
      (indent ind ++ 60 :: 47 :: (tag ++ [62])))))

theorem xt_render_eq (e : Elem) (ind : Nat) : e.render ind = indent ind ++ (unindented ind e ++ [10]) := by
  obtain ⟨tag, attrs, kids⟩ := e
  cases kids with
  | nil => simp [Elem.render, unindented, cLt, cSlash, cGt]
  | cons k ks => simp [Elem.render, unindented, renderKids, cLt, cSlash, cGt]

theorem xt_unindented_head {e : Elem} (he : ElemOK e) (ind : Nat) (R : Str) :
    ∃ d r, unindented ind e ++ R = 60 :: d :: r ∧ d ≠ 47 := by
  obtain ⟨tag, attrs, kids⟩ := e
  simp only [ElemOK] at he
  obtain ⟨c, t', rfl, _, _, h47⟩ := xt_name_head he.1
  cases kids with
  | nil => exact ⟨c, _, by simp only [unindented, List.cons_append]; rfl, h47⟩
  | cons k ks => exact ⟨c, _, by simp only [unindented, List.cons_append]; rfl, h47⟩

mutual
theorem xt_parse_elem : ∀ (e : Elem) (ind : Nat) (rest : Str) (fuel : Nat), ElemOK e →
    (unindented ind e ++ rest).length ≤ fuel → parseElem fuel (unindented ind e ++ rest) = some (e, rest)
  | .mk tag attrs [], ind, rest, fuel, he, hf => by
    simp only [ElemOK] at he
    have e1 : unindented ind (.mk tag attrs []) ++ rest = 60 :: (tag ++ (renderAttrs attrs ++ 47 :: 62 :: rest)) := by
      simp only [unindented, List.cons_append, List.append_assoc, List.nil_append]
    rw [e1] at hf ⊢
    obtain ⟨f, rfl⟩ := xt_fuel_succ (Nat.lt_of_succ_le hf)
    exact xt_parseElem_leaf he.1 he.2.1 f rest
  | .mk tag attrs (k :: ks), ind, rest, fuel, he, hf => by
    simp only [ElemOK] at he
    have e1 : unindented ind (.mk tag attrs (k :: ks)) ++ rest =
        60 :: (tag ++ (renderAttrs attrs ++ 62 :: 10 :: (renderKids (ind + 2) (k :: ks) ++
          (indent ind ++ 60 :: 47 :: (tag ++ 62 :: rest))))) := by
      simp only [unindented, List.cons_append, List.append_assoc, List.nil_append]
    rw [e1] at hf ⊢
    obtain ⟨f, rfl⟩ := xt_fuel_succ (Nat.lt_of_succ_le hf)
    have h3 := xt_parse_kids (k :: ks) (ind + 2) ind (tag ++ 62 :: rest) f he.2.2
      (by simp only [List.length_cons, List.length_append] at hf ⊢; omega)
    rw [← xt_parseKids_nl] at h3
    exact xt_parseElem_node he.1 he.2.1 f h3 (xt_parseEndTag he.1 rest)

/-- `n` is the indentation of the parent's end tag, which follows the children; any `n` does, since `parseKids`
    skips white space before the `</` -/
theorem xt_parse_kids : ∀ (ks : List Elem) (ind n : Nat) (rest : Str) (fuel : Nat), KidsOK ks →
    (renderKids ind ks ++ (indent n ++ 60 :: 47 :: rest)).length < fuel →
    parseKids fuel (renderKids ind ks ++ (indent n ++ 60 :: 47 :: rest)) = some (ks, rest)
  | [], ind, n, rest, fuel, _, hf => by
    obtain ⟨f, rfl⟩ := xt_fuel_succ hf
    rw [renderKids, List.nil_append]
    exact xt_parseKids_nil f (by rw [xt_skipWs_indent, xt_skipWs_cons (by decide)])
  | k :: ks, ind, n, rest, fuel, hk, hf => by
    obtain ⟨f, rfl⟩ := xt_fuel_succ hf
    simp only [KidsOK] at hk
    have e1 : renderKids ind (k :: ks) ++ (indent n ++ 60 :: 47 :: rest) =
        indent ind ++ (unindented ind k ++ 10 :: (renderKids ind ks ++ (indent n ++ 60 :: 47 :: rest))) := by
      rw [renderKids, xt_render_eq]
      simp only [List.cons_append, List.append_assoc, List.nil_append]
    rw [e1] at hf ⊢
    simp only [List.length_cons, List.length_append] at hf
    obtain ⟨d, r, hd, h47⟩ := xt_unindented_head hk.1 ind (10 :: (renderKids ind ks ++ (indent n ++ 60 :: 47 :: rest)))
    have h2 := xt_parse_elem k ind (10 :: (renderKids ind ks ++ (indent n ++ 60 :: 47 :: rest))) f hk.1
      (by simp only [List.length_cons, List.length_append]; omega)
    have h3 := xt_parse_kids ks ind n rest f hk.2 (by simp only [List.length_cons, List.length_append]; omega)
    rw [← xt_parseKids_nl] at h3
    rw [hd] at h2
    exact xt_parseKids_cons f (by rw [xt_skipWs_indent, hd, xt_skipWs_cons (by decide)]) h47 h2 h3
end

theorem xt_parse_render (e : Elem) (ind : Nat) (he : ElemOK e) {ws : Str} (hws : xmlSkipWs ws = []) :
    parseXml (e.render ind ++ ws) = some e := by
  have e1 : e.render ind ++ ws = indent ind ++ (unindented ind e ++ 10 :: ws) := by
    rw [xt_render_eq]
    simp only [List.append_assoc, List.cons_append, List.nil_append]
  have h := xt_parse_elem e ind (10 :: ws) ((e.render ind ++ ws).length + 1) he
    (by rw [e1]; simp only [List.length_append]; omega)
  obtain ⟨d, r, hd, _⟩ := xt_unindented_head he ind (10 :: ws)
  unfold parseXml
  rw [show xmlSkipWs (e.render ind ++ ws) = unindented ind e ++ 10 :: ws by
    rw [e1, xt_skipWs_indent, hd, xt_skipWs_cons (by decide)], h]
  simp only [xt_skipWs_ws (c := 10) ws rfl, hws]
  rfl

theorem xt_xtree_back : ∀ (t : XTree), xtreeOfElem (elemOfXTree t) = some t
  | .lf a => by simp only [elemOfXTree, xtreeOfElem, xtreesOfElems, if_true]
  | .rule1 a ch => by
    simp only [elemOfXTree, xtreeOfElem, xtreesOfElems, xt_xtree_back ch, if_true]
  | .rule2 a l r => by
    simp only [elemOfXTree, xtreeOfElem, xtreesOfElems, xt_xtree_back l, xt_xtree_back r, if_true]

theorem xt_ccg_back (c : CcgElem) : ccgOfElem (elemOfCcg c) = some c := by
  simp only [elemOfCcg, ccgOfElem, and_self, if_true, C07.cn_conllNat_ofNat, xt_xtree_back]

theorem xt_ccgs_back : ∀ (l : List CcgElem), ccgsOfElems (l.map elemOfCcg) = some l
  | [] => rfl
  | c :: cs => by simp only [List.map_cons, ccgsOfElems, xt_ccg_back, xt_ccgs_back cs]

theorem xt_leaves_back (tag : Str) : ∀ (l : List Attrs),
    attrsOfLeaves tag (l.map fun a => Elem.mk tag a []) = some l
  | [] => rfl
  | a :: as => by simp only [List.map_cons, attrsOfLeaves, xt_leaves_back tag as, if_true]

theorem xt_jccg_back (c : JCcg) :
    jccgOfElem (.mk (lit "ccg") c.attrs (c.spans.map fun sp => .mk (lit "span") sp [])) = some c := by
  simp only [jccgOfElem, xt_leaves_back, if_true]

theorem xt_jccgs_back : ∀ (l : List JCcg),
    jccgsOfElems (l.map fun c => .mk (lit "ccg") c.attrs (c.spans.map fun sp => .mk (lit "span") sp [])) = some l
  | [] => rfl
  | c :: cs => by simp only [List.map_cons, jccgsOfElems, xt_jccg_back, xt_jccgs_back cs]

theorem xt_jsentence_back (s : JSentence) : jsentenceOfElem (elemOfSentence s) = some s := by
  simp only [elemOfSentence, jsentenceOfElem, and_self, if_true, xt_leaves_back, xt_jccgs_back]

theorem xt_jsentences_back : ∀ (l : List JSentence), jsentencesOfElems (l.map elemOfSentence) = some l
  | [] => rfl
  | c :: cs => by simp only [List.map_cons, jsentencesOfElems, xt_jsentence_back, xt_jsentences_back cs]

/-- the two hypotheses are evaluated: the keys of a fixed attribute list, and that they are names -/
theorem xt_attrsOK_keys {a : Attrs} (ks : List Str) (hk : a.map (·.1) = ks := by rfl)
    (h : ∀ k ∈ ks, NameOK k := by decide) : AttrsOK a :=
  fun _ hkv => h _ (hk ▸ List.mem_map_of_mem hkv)

mutual
theorem xt_elemOK_iff : ∀ e : Elem, ElemOK e ↔ ElemAll NameOK (fun kv => NameOK kv.1) e
  | .mk tag attrs kids => by simp only [ElemOK, ElemAll, AttrsOK, xt_kidsOK_iff kids]
theorem xt_kidsOK_iff : ∀ ks : List Elem, KidsOK ks ↔ KidsAll NameOK (fun kv => NameOK kv.1) ks
  | [] => by simp only [KidsOK, KidsAll]
  | k :: ks => by simp only [KidsOK, KidsAll, xt_elemOK_iff k, xt_kidsOK_iff ks]
end

theorem xt_tags_ok : ∀ tag ∈ tags, NameOK tag := by
  unfold tags
  decide_lit

theorem xt_xmlTree_keys : ∀ (t : Tree) (start : Nat), TreeKeysOK t → XTreeAll (fun kv => NameOK kv.1) (xmlTree t start).1
  | .leaf c tok _ _, start, h => C15.xmlTree_leaf .. ▸ fun kv hkv =>
    (C06.mem_setAll hkv).elim (h kv) ((xt_attrsOK_keys [lit "start", lit "span", lit "cat"]) kv)
  | .un c s _ ch, start, h => ⟨xt_attrsOK_keys [lit "type", lit "cat"], xt_xmlTree_keys ch start h⟩
  | .bin c s _ _ l r, start, h => ⟨xt_attrsOK_keys [lit "type", lit "cat"],
      xt_xmlTree_keys l start h.1, xt_xmlTree_keys r (xmlTree l start).2 h.2⟩

theorem xt_treeKeysOK_iff : ∀ (t : Tree), TreeKeysOK t ↔ TextProps.AllToks TokKeysOK t
  | .leaf .. => Iff.rfl
  | .un _ _ _ ch => xt_treeKeysOK_iff ch
  | .bin _ _ _ _ l r => and_congr (xt_treeKeysOK_iff l) (xt_treeKeysOK_iff r)

theorem xt_entry_keys (sid : Nat) (u rt : Bool) (p : Tree × Nat × Nat) : AttrsOK (C15.entry sid u rt p) := by
  have h : AttrsOK (C15.headAttrs sid u p) := by
    obtain ⟨t, n, k⟩ := p
    cases t
    · exact xt_attrsOK_keys [lit "category", lit "id", lit "terminal", lit "begin", lit "end"]
    · exact xt_attrsOK_keys [lit "category", lit "id", lit "child", lit "rule", lit "begin", lit "end"]
    · exact xt_attrsOK_keys [lit "category", lit "id", lit "child", lit "rule", lit "begin", lit "end"]
  cases rt
  · exact h
  · exact fun kv hkv => (C06.mem_set hkv).elim (· ▸ (by decide : NameOK (lit "root"))) (h kv)

theorem xt_jiggToken_ok (sid i : Nat) (c : Cat) (tok : Token) (ht : TokKeysOK tok) :
    AttrsOK (jiggToken sid i c tok) := by
  intro kv hkv
  rcases C15.mem_jiggToken hkv with h | h | ⟨_, _, rfl⟩ | ⟨_, _, rfl⟩
  · exact (xt_attrsOK_keys [lit "start", lit "cat", lit "id"]) kv h
  · exact ht kv h
  · exact (by decide : NameOK (lit "surf"))
  · exact (by decide : NameOK (lit "base"))

theorem xt_jiggOfAux_ok (u : Bool) (batch : List (List Tree)) (sid : Nat) (ss : List JSentence)
    (h : jiggOfAux u batch sid = .ok ss) (hk : ∀ ts ∈ batch, ∀ t ∈ ts, TreeKeysOK t) :
    ∀ s ∈ ss, JSentAll (fun kv => NameOK kv.1) s :=
  jiggOfAux_all u (fun _ _ => (by decide : NameOK (lit "id"))) (fun _ _ => (by decide : NameOK (lit "root"))) batch sid ss h
    (fun _ _ _ _ sid n rt p _ => xt_entry_keys sid u rt p) fun ts hts t ht sid a ha => by
      obtain ⟨tok, htok, c, -, i, rfl⟩ := C15.mem_sentToks ha
      exact xt_jiggToken_ok sid i c tok (TextProps.allToks_iff.1
        ((xt_treeKeysOK_iff t).1 (hk ts hts t (List.mem_of_mem_head? ht))) tok htok)

theorem xt_xml_decode (batch : List (List Tree)) (text : Str) (hk : ∀ ts ∈ batch, ∀ t ∈ ts, TreeKeysOK t)
    (h : xmlText batch = .ok text) (ws : Str) (hws : xmlSkipWs ws = []) :
    readXmlText (text ++ ws) = some (xmlOf batch) := by
  obtain ⟨-, rfl⟩ := docText_ok_iff.1 h
  unfold readXmlText
  rw [xt_parse_render _ 0 ((xt_elemOK_iff _).2 (xmlDoc_all xt_tags_ok
    (fun _ => (by decide : NameOK (lit "sentence"))) (fun _ => (by decide : NameOK (lit "id"))) batch
    fun ts hts t ht => xt_xmlTree_keys t 0 (hk ts hts t ht))) hws]
  simp only [xmlDoc, if_true]
  exact xt_ccgs_back _

theorem xt_jigg_decode (u : Bool) (batch : List (List (Tree × Option Int))) (ss : List JSentence) (text : Str)
    (hk : ∀ ts ∈ batch, ∀ p ∈ ts, TreeKeysOK p.1)
    (hj : jiggOf u (batch.map fun ts => ts.map fun p => p.1) = .ok ss) (h : jiggText u batch = .ok text)
    (ws : Str) (hws : xmlSkipWs ws = []) :
    readJiggText (text ++ ws) = some (withScoresAll ss (batch.map fun ts => ts.map fun p => p.2)) := by
  obtain ⟨ss', hj', h⟩ := jiggText_ok_iff.1 h
  cases hj.symm.trans hj'
  obtain ⟨-, rfl⟩ := docText_ok_iff.1 h
  have hk' : ∀ ts ∈ batch.map (fun ts => ts.map fun p => p.1), ∀ t ∈ ts, TreeKeysOK t :=
    List.forall_mem_map.2 fun ts hts => List.forall_mem_map.2 (hk ts hts)
  have hok := withScoresAll_all (fun _ => (by decide : NameOK (lit "score"))) ss (batch.map fun ts => ts.map fun p => p.2)
    (xt_jiggOfAux_ok u _ 0 ss hj hk')
  unfold readJiggText
  rw [xt_parse_render _ 0 ((xt_elemOK_iff _).2 (jiggDoc_all xt_tags_ok hok)) hws]
  simp only [jiggDoc, and_self, if_true]
  exact xt_jsentences_back _

end Depccg.C15Text
