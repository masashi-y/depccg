/-
  The text printed record by record (`Print.toStringLines`, and `Cli.printText` for the formats it
  covers) is, seen as lines, per record the lines of the header and the lines of the body
  (`toStringLines_lines`); the header line `header false` is read back by
  `Read.decLineHeader`. The one-line-per-tree formats at the level of the
  whole output: the run of `Read.decLineDoc` over the lines of the printed records.
-/
import Depccg.Proofs.StrLemmas
import Depccg.Proofs.PrintLemmas
import Depccg.Proofs.ScoreLemmas
import Depccg.Props.MainLineDefs
import Depccg.Proofs.TreeLemmas

namespace Depccg.CliProps
open Depccg Str Search GlueRun Lazy Print Cli LazyProps Read C07 FileProps

theorem lineStripPrefix_append : ∀ (p s : Str), lineStripPrefix (p ++ s) p = some s
  | [], s => by cases s <;> rfl
  | x :: p, s => by
    simp only [List.cons_append, lineStripPrefix, if_true]
    exact lineStripPrefix_append p s

/-- the header the printer writes, as the reader sees it -/
theorem header_eq (n : Nat) (sc : Str) :
    header false n sc = lineIdPrefix ++ (Str.ofNat n ++ cComma :: (lit " log probability=" ++ sc)) := by
  have hl : lit ", log probability=" = cComma :: lit " log probability=" := by decide_lit
  have hi : lit "ID=" = lineIdPrefix := rfl
  simp only [header_false, hl, hi]
  simp

theorem decLineHeader_header (n : Nat) (sc : Str) : decLineHeader (header false n sc) = some (n, sc) := by
  rw [header_eq]
  have h1 := (span_ne_append (lit " log probability=" ++ sc) (ofNat_notMem (x := cComma) n (by decide))).1
  have h2 : (Str.ofNat n ++ cComma :: (lit " log probability=" ++ sc)).drop (Str.ofNat n).length =
      lineProbSep ++ sc := by
    rw [List.drop_left, show lineProbSep = cComma :: lit " log probability=" by
      unfold lineProbSep; decide_lit]
    rfl
  simp only [decLineHeader, lineStripPrefix_append, h1, cn_conllNat_ofNat, h2]

theorem header_ne_nil (n : Nat) (sc : Str) : (header false n sc).isEmpty = false := by
  rw [header_eq]
  rfl

theorem lineFmt_ne_conll {f : Fmt} (h : lineFmt f = true) : (f == Fmt.conll) = false := by
  cases f <;> first | rfl | cases h

theorem printText_record_eq {f : Fmt} (hf : lineFmt f = true ∨ f = .conll ∨ f = .deriv)
    (results : List SentResult) :
    printText f results = addNewline (toStringLines f.fn (f == Fmt.conll) (results.map scored)) := by
  cases f <;> first | rfl | simp [lineFmt] at hf

theorem printText_record_inv {f : Fmt} {results : List SentResult} {text : Str}
    (hf : lineFmt f = true ∨ f = .conll ∨ f = .deriv) (h : printText f results = .ok text) :
    ∃ t, toStringLines f.fn (f == Fmt.conll) (results.map scored) = .ok t ∧ text = t ++ [10] :=
  addNewline_inv (printText_record_eq hf results ▸ h)

/-- `dec` reads a text whose lines are those of records with score texts on one line and bodies in
    `B`, followed by empty lines, to exactly those records. The conll document reader is not an instance: its
    header is two lines (`docLines true`) and a table ends at an empty line or at the next header;
    `MainConllLemmas` follows `conllDocRun` itself. -/
def ReadsRecords (dec : Str → Option (List LineRecord)) (B : Str → Prop) : Prop :=
  ∀ (out : List LineRecord) (tail : List Str) (text : Str),
    (∀ r ∈ out, 10 ∉ r.2.1 ∧ B r.2.2) → tail.all (fun l => l.isEmpty) = true →
    splitOn 10 text = docLines false out ++ tail → dec text = some out

section scheme
variable {dec : Str → Option (List LineRecord)} {B : Str → Prop} (hdec : ReadsRecords dec B)
include hdec

/-- `rest`: for the newline `print` adds after the text -/
theorem records_doc (fmt : Tree → Except Err Str) (batch : List (List (Tree × Str))) (text : Str)
    (h : ∀ ts ∈ batch, ∀ p ∈ ts, 10 ∉ p.2 ∧ ∀ s, fmt p.1 = .ok s → B s)
    (hp : toStringLines fmt false batch = .ok text) :
    ∃ out, Forall2 (LineRecOf fmt) (numbered batch) out ∧
      ∀ rest : Str, (splitOn 10 rest).all (fun l => l.isEmpty) = true →
        dec (text ++ rest) = some out := by
  obtain ⟨out, hf, hl⟩ := toStringLines_lines fmt false (numbered batch) text hp
  refine ⟨out, hf, fun rest hr => hdec out _ _ (fun r hr' => ?_) hr (hl rest)⟩
  obtain ⟨p, hp, -, h2, h3⟩ := hf.exists_of_mem_right r hr'
  obtain ⟨h4, h5⟩ := Print.forall_numbered h p hp
  exact ⟨h2 ▸ h4, h5 _ h3⟩

/-- the program-level theorem of such a format: every printed tree has its body in `B`, and the
    line-level theorem says `Q` of it -/
theorem printText_records {f : Fmt} (hf : lineFmt f = true ∨ f = .deriv) {Q : Tree → Str → Prop}
    (results : List SentResult) (text : Str)
    (hB : ∀ r ∈ results, ∀ ts ∈ scored r, ∀ s, f.fn ts.1 = .ok s → B s ∧ Q ts.1 s)
    (hp : printText f results = .ok text) :
    ∃ recs, dec text = some recs ∧
      Forall2 (fun (p : Nat × (Tree × Str)) (r : Nat × Str × Str) =>
        r.1 = p.1 ∧ r.2.1 = p.2.2 ∧ Q p.2.1 r.2.2) (numbered (results.map scored)) recs := by
  obtain ⟨t, ht, rfl⟩ := printText_record_inv (hf.imp_right .inr) hp
  have hc : (f == Fmt.conll) = false := hf.elim lineFmt_ne_conll fun e => e ▸ rfl
  obtain ⟨out, hfo, hrun⟩ := records_doc hdec f.fn (results.map scored) t
    (List.forall_mem_map.2 fun r hr p hpm =>
      ⟨(scored_scoreOK r p hpm).1, fun s hs => (hB r hr p hpm s hs).1⟩) (hc ▸ ht)
  exact ⟨out, hrun [10] rfl, hfo.imp fun p hp r ⟨h1, h2, h3⟩ =>
    ⟨h1, h2, (Print.forall_numbered (List.forall_mem_map.2 hB) p hp _ h3).2⟩⟩

end scheme

theorem ml_run_end : ∀ (tail : List Str) (acc : List LineRecord),
    tail.all (fun l => l.isEmpty) = true → lineDocRun tail acc = some acc.reverse
  | [], _, _ => rfl
  | [] :: tail, acc, ht => by
    simp only [lineDocRun, List.isEmpty_nil, if_true, List.all_cons, Bool.true_and] at ht ⊢
    rw [if_pos ht]
  | (_ :: _) :: _, _, ht => by cases ht

theorem ml_run_record (n : Nat) (sc s : Str) (more : List Str) (acc : List LineRecord) :
    lineDocRun (header false n sc :: s :: more) acc = lineDocRun more ((n, sc, s) :: acc) := by
  simp only [lineDocRun, header_ne_nil, Bool.false_eq_true, if_false, decLineHeader_header]

theorem ml_run_docLines (tail : List Str) (ht : tail.all (fun l => l.isEmpty) = true) :
    ∀ (out : List LineRecord), (∀ r ∈ out, 10 ∉ r.2.1 ∧ 10 ∉ r.2.2) → ∀ (acc : List LineRecord),
    lineDocRun (docLines false out ++ tail) acc = some (acc.reverse ++ out)
  | [], _, acc => by simpa [docLines] using ml_run_end tail acc ht
  | (n, sc, s) :: out, h, acc => by
    obtain ⟨h1, h2⟩ := h _ List.mem_cons_self
    rw [docLines_cons, header_lines n h1, splitOn_of_notMem 10 h2]
    simp only [List.cons_append, List.nil_append]
    rw [ml_run_record, ml_run_docLines tail ht out (fun r hr => h r (List.mem_cons_of_mem _ hr))]
    simp

theorem lineDoc_reads : ReadsRecords decLineDoc (10 ∉ ·) := fun out tail text h ht e => by
  rw [decLineDoc, e, ml_run_docLines tail ht out h]
  rfl

end Depccg.CliProps
