/-
  The binary-heap agenda `pickHeap` (libstdc++'s `std::priority_queue`) is an admissible agenda
  discipline (`PickOK`), it maintains the max-heap invariant, and therefore the fallback branch of
  `popHeap` is dead code in every run of the search loop.  Its operations commute with every map
  of items that preserves the priorities.
-/
import Depccg.Proofs.SearchLemmas

namespace Depccg.SearchProps
open Depccg Search

theorem heap_swapIfInBounds_perm {α : Type} {a : Array α} {i j : Nat} :
    (a.swapIfInBounds i j).toList.Perm a.toList := by
  unfold Array.swapIfInBounds
  split
  · split
    · exact Array.perm_iff_toList_perm.1 (Array.swap_perm _ _)
    · exact .refl _
  · exact .refl _

theorem heap_siftUp_perm (fuel : Nat) : ∀ (a : Array Item) (i : Nat),
    (siftUp a fuel i).toList.Perm a.toList := by
  induction fuel with
  | zero => intro a i; exact .refl _
  | succ fuel ih =>
    intro a i
    simp only [siftUp]
    split
    · exact .refl _
    · split
      · split
        · exact (ih _ _).trans heap_swapIfInBounds_perm
        · exact .refl _
      · exact .refl _

theorem heap_sink_perm (len : Nat) (fuel : Nat) : ∀ (a : Array Item) (h : Nat),
    (sink len a fuel h).1.toList.Perm a.toList := by
  induction fuel with
  | zero => intro a h; exact .refl _
  | succ fuel ih =>
    intro a h
    simp only [sink]
    split
    · exact (ih _ _).trans heap_swapIfInBounds_perm
    · split
      · exact heap_swapIfInBounds_perm
      · exact .refl _

theorem heap_heapPush_perm (a : Array Item) (v : Item) :
    (heapPush a v).toList.Perm (v :: a.toList) := by
  refine (heap_siftUp_perm _ _ _).trans ?_
  rw [Array.toList_push]
  exact List.perm_append_singleton _ _

theorem heap_pop_perm {α : Type} (b : Array α) (h : b.size - 1 < b.size) :
    (b[b.size - 1] :: b.pop.toList).Perm b.toList := by
  have hne : b.toList ≠ [] := fun e => by simp [← Array.length_toList, e] at h
  have e := List.dropLast_concat_getLast hne
  rw [List.getLast_eq_getElem] at e
  simp only [Array.length_toList, Array.getElem_toList] at e
  rw [Array.toList_pop]
  exact (List.perm_append_singleton _ _).symm.trans (.of_eq e)

/-- the vector after `pop_heap` and `pop_back`, when more than one element was in it -/
def heap_popBody (a : Array Item) : Array Item :=
  let b := (a.swapIfInBounds 0 (a.size - 1)).pop
  let r := sink b.size b b.size 0
  siftUp r.1 (r.2 + 1) r.2

theorem heap_heapPop_eq {a : Array Item} {top : Item} (h0 : a[0]? = some top) :
    heapPop a = some (top, if a.size = 1 then #[] else heap_popBody a) := by
  simp only [heapPop, h0]
  split <;> rfl

theorem heap_popBody_perm {a : Array Item} {top : Item} (h0 : a[0]? = some top) :
    (top :: (heap_popBody a).toList).Perm a.toList := by
  obtain ⟨hlt, htop⟩ := Array.getElem?_eq_some_iff.1 h0
  have hb := heap_pop_perm (a.swapIfInBounds 0 (a.size - 1))
    (by rw [Array.size_swapIfInBounds]; omega)
  simp only [Array.size_swapIfInBounds, Array.getElem_swapIfInBounds_right hlt, htop] at hb
  exact (((heap_siftUp_perm _ _ _).trans (heap_sink_perm _ _ _ _)).cons top).trans
    (hb.trans heap_swapIfInBounds_perm)

theorem heap_heapPop_spec (a : Array Item) (top : Item) (h0 : a[0]? = some top) :
    ∃ b, heapPop a = some (top, b) ∧ (top :: b.toList).Perm a.toList := by
  refine ⟨_, heap_heapPop_eq h0, ?_⟩
  split
  · rename_i h1
    obtain ⟨hlt, htop⟩ := Array.getElem?_eq_some_iff.1 h0
    have : a.toList = [a[0]] := List.ext_getElem (by simp [h1]) fun i hi1 hi2 => by
      simp at hi2; subst hi2; simp
    rw [this, htop]
  · exact heap_popBody_perm h0

theorem heap_foldl_heapPush_perm (new : List Item) : ∀ (arr : Array Item),
    (new.foldl heapPush arr).toList.Perm (new ++ arr.toList) := by
  induction new with
  | nil => intro arr; exact .refl _
  | cons x xs ih =>
    intro arr
    refine (ih _).trans ((List.Perm.append_left xs (heap_heapPush_perm arr x)).trans ?_)
    simp

theorem popHeap_of_front_max {top : Item} {tl : List Item}
    (h : ∀ o ∈ top :: tl, o.prio ≤ top.prio) :
    popHeap (top :: tl) = (heapPop (top :: tl).toArray).map (fun p => (p.1, p.2.toList)) := by
  have hall : (top :: tl).all (fun o => decide (o.prio ≤ top.prio)) = true :=
    List.all_eq_true.2 fun o ho => decide_eq_true (h o ho)
  simp only [popHeap, hall, if_true]
  cases heapPop (top :: tl).toArray <;> rfl

theorem pickHeap_ok : PickOK pickHeap := by
  refine ⟨rfl, fun l hne => ?_, fun new old => ?_⟩
  · cases l with
    | nil => exact absurd rfl hne
    | cons top tl =>
      show ∃ it rest, popHeap (top :: tl) = some (it, rest) ∧ _
      by_cases hmax : ∀ o ∈ top :: tl, o.prio ≤ top.prio
      · obtain ⟨b, hb, hperm⟩ := heap_heapPop_spec (top :: tl).toArray top (by simp)
        exact ⟨top, b.toList, by rw [popHeap_of_front_max hmax, hb]; rfl, by simpa using hperm, hmax⟩
      · have hall : ¬ (top :: tl).all (fun o => decide (o.prio ≤ top.prio)) = true :=
          fun h => hmax fun o ho => of_decide_eq_true (List.all_eq_true.1 h o ho)
        simp only [popHeap, hall]
        exact popFirstMax_spec _ hne
  · show (pushHeap new old).Perm (new ++ old)
    simpa [pushHeap] using heap_foldl_heapPush_perm new old.toArray

/-- unfolds to `∀ i, 0 < i → HeapLe a ((i - 1) / 2) i` (`heap_isHeap_iff`); the proofs use either
    form -/
def IsHeap (a : Array Item) : Prop :=
  ∀ i, 0 < i → ∀ x v, a[(i - 1) / 2]? = some x → a[i]? = some v → v.prio ≤ x.prio

/-- what sits at `j` is no larger than what sits at `i`.  Stated through `[·]?`, so it holds when
    either place is beyond the end: that is how "no child there" is said (`HeapLe.of_size_le`) -/
def HeapLe (a : Array Item) (i j : Nat) : Prop :=
  ∀ x v, a[i]? = some x → a[j]? = some v → v.prio ≤ x.prio

/-- heap order on every edge not touching `h`, and the children of `h` are below the parent of `h` -/
def HeapHole (a : Array Item) (h : Nat) : Prop :=
  (∀ j, 0 < j → j ≠ h → (j - 1) / 2 ≠ h → HeapLe a ((j - 1) / 2) j) ∧
  (0 < h → ∀ c, 0 < c → (c - 1) / 2 = h → HeapLe a ((h - 1) / 2) c)

/-- heap order on every edge except the one from `i` to its parent, and the children of `i` are
    below the parent of `i`: the value at `i` may be too large for its place, nothing else is -/
def HeapExcept (a : Array Item) (i : Nat) : Prop :=
  HeapHole a i ∧ ∀ c, 0 < c → (c - 1) / 2 = i → HeapLe a i c

theorem heap_isHeap_iff (a : Array Item) : IsHeap a ↔ ∀ i, 0 < i → HeapLe a ((i - 1) / 2) i :=
  Iff.rfl

/-! index arithmetic: the children of `h` are `2 * (h + 1) - 1` and `2 * (h + 1)` -/

theorem heap_parent_lt {i : Nat} (h : 0 < i) : (i - 1) / 2 < i :=
  Nat.lt_of_le_of_lt (Nat.div_le_self _ _) (Nat.sub_lt h Nat.one_pos)

theorem heap_lt_left (h : Nat) : h < 2 * (h + 1) - 1 := by omega

theorem heap_parent_left (h : Nat) : (2 * (h + 1) - 1 - 1) / 2 = h := by omega

theorem heap_parent_right (h : Nat) : (2 * (h + 1) - 1) / 2 = h := by omega

theorem heap_child_of_parent {c h : Nat} (hc : 0 < c) (hp : (c - 1) / 2 = h) :
    c = 2 * (h + 1) - 1 ∨ c = 2 * (h + 1) := by omega

theorem heap_left_le_child {c h : Nat} (hc : 0 < c) (hp : (c - 1) / 2 = h) : 2 * h + 1 ≤ c := by omega

/-- `sink` goes on while the hole has two children among the first `len` places … -/
theorem heap_two_children {h len : Nat} (hlt : h < (len - 1) / 2) : 2 * (h + 1) < len := by omega

/-- … makes a last step if it has only a left child … -/
theorem heap_one_child {h len : Nat} (he : len % 2 = 0 ∧ h = (len - 2) / 2) (hl : 0 < len) :
    2 * (h + 1) = len := by omega

/-- … and stops where no child is left -/
theorem heap_no_child {len h : Nat} (h1 : ¬ h < (len - 1) / 2)
    (h2 : ¬ (len % 2 = 0 ∧ h = (len - 2) / 2)) : len ≤ 2 * h + 1 := by omega

theorem heap_lt_size_of_some {a : Array Item} {i : Nat} {x : Item} (h : a[i]? = some x) :
    i < a.size := (Array.getElem?_eq_some_iff.1 h).1

theorem HeapLe.of_get {a : Array Item} {i j : Nat} {x v : Item} (hx : a[i]? = some x)
    (hv : a[j]? = some v) (h : v.prio ≤ x.prio) : HeapLe a i j := by
  intro x' v' hx' hv'
  rw [hx] at hx'; rw [hv] at hv'
  cases hx'; cases hv'
  exact h

theorem HeapLe.of_size_le {a : Array Item} {i j : Nat} (h : a.size ≤ j) : HeapLe a i j := by
  intro x v _ hv
  rw [Array.getElem?_eq_none h] at hv
  cases hv

theorem HeapLe.trans {a : Array Item} {i j k : Nat} (hj : j < a.size)
    (h1 : HeapLe a i j) (h2 : HeapLe a j k) : HeapLe a i k := by
  intro x v hx hv
  have hy : a[j]? = some a[j] := by simp [hj]
  exact Int.le_trans (h2 _ _ hy hv) (h1 _ _ hx hy)

theorem HeapLe.congr {a b : Array Item} {i j i' j' : Nat} (h : HeapLe a i j)
    (hi : b[i']? = a[i]?) (hj : b[j']? = a[j]?) : HeapLe b i' j' :=
  fun x v hx hv => h x v (hi ▸ hx) (hj ▸ hv)

theorem heap_swap_get_left {α : Type} (a : Array α) (i j : Nat) (hi : i < a.size) (hj : j < a.size) :
    (a.swapIfInBounds i j)[i]? = a[j]? := by
  simp only [Array.swapIfInBounds, hi, hj, dite_true, Array.getElem?_swap]
  split
  · rename_i h; subst h; simp
  · simp

theorem heap_swap_get_right {α : Type} (a : Array α) (i j : Nat) (hi : i < a.size) (hj : j < a.size) :
    (a.swapIfInBounds i j)[j]? = a[i]? := by
  simp [Array.swapIfInBounds, hi, hj]

theorem heap_swap_get_other {α : Type} (a : Array α) (i j k : Nat) (hi : k ≠ i) (hj : k ≠ j) :
    (a.swapIfInBounds i j)[k]? = a[k]? := by
  unfold Array.swapIfInBounds
  split
  · split
    · rw [Array.getElem?_swap, if_neg (fun h => hj h.symm), if_neg (fun h => hi h.symm)]
    · rfl
  · rfl

theorem heap_except_isHeap {a : Array Item} {i : Nat} (h : HeapExcept a i)
    (hi : 0 < i → HeapLe a ((i - 1) / 2) i) : IsHeap a := by
  intro j hj
  by_cases e : j = i
  · subst e; exact hi hj
  · by_cases e2 : (j - 1) / 2 = i
    · exact e2 ▸ h.2 j hj e2
    · exact h.1.1 j hj e e2

theorem heap_except_swap {a : Array Item} {i : Nat} {x v : Item} (h : HeapExcept a i) (hi : 0 < i)
    (hx : a[(i - 1) / 2]? = some x) (hv : a[i]? = some v) (hlt : x.prio < v.prio) :
    HeapExcept (a.swapIfInBounds ((i - 1) / 2) i) ((i - 1) / 2) := by
  obtain ⟨⟨H1, H2⟩, H3⟩ := h
  have H2 := H2 hi
  have hps := heap_lt_size_of_some hx
  have hpi := heap_parent_lt hi
  -- from here on `p` is just an index below `i`
  generalize hp : (i - 1) / 2 = p at *
  have gl := heap_swap_get_left a _ _ hps (heap_lt_size_of_some hv)
  have gr := heap_swap_get_right a _ _ hps (heap_lt_size_of_some hv)
  have go := fun k => heap_swap_get_other a p i k
  have hsib : ∀ c, 0 < c → (c - 1) / 2 = p → c ≠ i → HeapLe a p c := by
    intro c hc hcp e
    have := H1 c hc e (by rw [hcp]; exact Nat.ne_of_lt hpi)
    rwa [hcp] at this
  have hcne : ∀ c, 0 < c → (c - 1) / 2 = p → c ≠ p := by
    intro c hc hcp
    have := heap_parent_lt hc
    rw [hcp] at this
    exact Nat.ne_of_gt this
  refine ⟨⟨fun j hj hjp hpj => ?_, fun hp c hc hcp => ?_⟩, fun c hc hcp => ?_⟩
  · have hji : j ≠ i := by rintro rfl; exact hpj hp
    by_cases e : (j - 1) / 2 = i
    · rw [e]
      exact (H2 j hj e).congr gr (go j hjp hji)
    · exact (H1 j hj hji e).congr (go _ hpj e) (go j hjp hji)
  · have hpp := heap_parent_lt hp
    have hppi := Nat.ne_of_lt (Nat.lt_trans hpp hpi)
    have hP : HeapLe a ((p - 1) / 2) p := H1 p hp (Nat.ne_of_lt hpi) hppi
    have gpp := go ((p - 1) / 2) (Nat.ne_of_lt hpp) hppi
    by_cases e : c = i
    · rw [e]
      exact hP.congr gpp gr
    · exact (hP.trans hps (hsib c hc hcp e)).congr gpp (go c (hcne c hc hcp) e)
  · by_cases e : c = i
    · rw [e]
      exact (HeapLe.of_get hv hx (Int.le_of_lt hlt)).congr gl gr
    · refine HeapLe.congr (fun x' v' hx' hv' => ?_) gl (go c (hcne c hc hcp) e)
      rw [hv] at hx'; cases hx'
      exact Int.le_trans (hsib c hc hcp e _ _ hx hv') (Int.le_of_lt hlt)

theorem heap_siftUp_isHeap (fuel : Nat) : ∀ (a : Array Item) (i : Nat), i < fuel →
    HeapExcept a i → IsHeap (siftUp a fuel i) := by
  induction fuel with
  | zero => exact fun a i hi => absurd hi (Nat.not_lt_zero i)
  | succ fuel ih =>
    intro a i hi h
    simp only [siftUp]
    split
    · rename_i h0
      exact heap_except_isHeap h fun hpos => absurd h0 (Nat.ne_of_gt hpos)
    · rename_i h0
      have hpos := Nat.pos_of_ne_zero h0
      split
      · rename_i x v hx hv
        split
        · rename_i hlt
          exact ih _ _ (Nat.lt_of_lt_of_le (heap_parent_lt hpos) (Nat.le_of_lt_succ hi))
            (heap_except_swap h hpos hx hv hlt)
        · rename_i hlt
          exact heap_except_isHeap h fun _ => .of_get hx hv (Int.not_lt.1 hlt)
      · rename_i hnone
        exact heap_except_isHeap h fun _ x' v' hx' hv' => absurd hv' (hnone _ _ hx')

theorem heap_isHeap_empty : IsHeap #[] := by
  intro i _ x v hx _
  simp at hx

theorem heap_heapPush_isHeap (a : Array Item) (v : Item) : IsHeap a → IsHeap (heapPush a v) := by
  intro h
  refine heap_siftUp_isHeap _ _ _ (Nat.lt_succ_self _) ?_
  have hsome : ∀ {k : Nat} {y : Item}, (a.push v)[k]? = some y → k ≠ a.size → a[k]? = some y := by
    intro k y hk hne
    rw [Array.getElem?_push, if_neg hne] at hk; exact hk
  -- the new last place has no children
  have hout : ∀ i c, 0 < c → (c - 1) / 2 = a.size → HeapLe (a.push v) i c := by
    intro i c hc hcp
    have := heap_parent_lt hc
    rw [hcp] at this
    exact .of_size_le (by rw [Array.size_push]; exact this)
  exact ⟨⟨fun j hj hjn hpn x y hx hy => h j hj x y (hsome hx hpn) (hsome hy hjn),
    fun _ => hout _⟩, hout _⟩

/-- the inline `match` of `Search.sink`, named -/
def heap_childIdx (a : Array Item) (h : Nat) : Nat :=
  match a[2 * (h + 1)]?, a[2 * (h + 1) - 1]? with
  | some r, some l => if r.prio < l.prio then 2 * (h + 1) - 1 else 2 * (h + 1)
  | _, _ => 2 * (h + 1)

theorem heap_sink_succ (len : Nat) (a : Array Item) (fuel h : Nat) :
    sink len a (fuel + 1) h =
      if h < (len - 1) / 2 then
        sink len (a.swapIfInBounds h (heap_childIdx a h)) fuel (heap_childIdx a h)
      else if len % 2 = 0 ∧ h = (len - 2) / 2 then
        (a.swapIfInBounds h (2 * (h + 1) - 1), 2 * (h + 1) - 1)
      else (a, h) := rfl

theorem heap_hole_step {a : Array Item} {h c : Nat} (H : HeapHole a h) (hc : 0 < c)
    (hcp : (c - 1) / 2 = h) (hcs : c < a.size)
    (hsib : ∀ s, 0 < s → (s - 1) / 2 = h → s ≠ c → HeapLe a c s) :
    HeapHole (a.swapIfInBounds h c) c := by
  obtain ⟨H1, H2⟩ := H
  subst hcp
  have hhc := heap_parent_lt hc
  have gl := heap_swap_get_left a _ c (Nat.lt_trans hhc hcs) hcs
  have go := fun k => heap_swap_get_other a ((c - 1) / 2) c k
  refine ⟨fun j hj hjc hpc => ?_, fun _ g hg hgp => ?_⟩
  · by_cases e : j = (c - 1) / 2
    · subst e
      have hpj := heap_parent_lt hj
      exact (H2 hj c hc rfl).congr
        (go _ (Nat.ne_of_lt hpj) (Nat.ne_of_lt (Nat.lt_trans hpj hhc))) gl
    · by_cases e2 : (j - 1) / 2 = (c - 1) / 2
      · rw [e2]
        exact (hsib j hj e2 hjc).congr gl (go j e hjc)
      · exact (H1 j hj e e2).congr (go _ e2 hpc) (go j e hjc)
  · subst hgp
    have hcg := heap_parent_lt hg
    have hgh := Nat.ne_of_gt (Nat.lt_trans hhc hcg)
    exact (H1 g hg hgh (Nat.ne_of_gt hhc)).congr gl (go g hgh (Nat.ne_of_gt hcg))

theorem heap_child_spec (a : Array Item) (h : Nat) (hs : 2 * (h + 1) < a.size) :
    0 < heap_childIdx a h ∧ (heap_childIdx a h - 1) / 2 = h ∧ heap_childIdx a h < a.size ∧
    h < heap_childIdx a h ∧
    ∀ s, 0 < s → (s - 1) / 2 = h → s ≠ heap_childIdx a h → HeapLe a (heap_childIdx a h) s := by
  have hhl := heap_lt_left h
  have hlr : 2 * (h + 1) - 1 < 2 * (h + 1) :=
    Nat.sub_lt (Nat.mul_pos (by decide) (Nat.succ_pos h)) Nat.one_pos
  have hls := Nat.lt_trans hlr hs
  have hr : a[2 * (h + 1)]? = some a[2 * (h + 1)] := Array.getElem?_eq_getElem hs
  have hl : a[2 * (h + 1) - 1]? = some a[2 * (h + 1) - 1] := Array.getElem?_eq_getElem hls
  unfold heap_childIdx
  rw [hr, hl]
  simp only
  split
  · rename_i hlt
    refine ⟨Nat.zero_lt_of_lt hhl, heap_parent_left h, hls, hhl, fun s hs0 hsp hne => ?_⟩
    rcases heap_child_of_parent hs0 hsp with rfl | rfl
    · exact absurd rfl hne
    · exact .of_get hl hr (Int.le_of_lt hlt)
  · rename_i hlt
    refine ⟨Nat.zero_lt_of_lt hlr, heap_parent_right h, hs, Nat.lt_trans hhl hlr,
      fun s hs0 hsp hne => ?_⟩
    rcases heap_child_of_parent hs0 hsp with rfl | rfl
    · exact .of_get hr hl (Int.not_lt.1 hlt)
    · exact absurd rfl hne

/-- the hole stays a hole and ends at a leaf (second conjunct: its children lie beyond the end) -/
theorem heap_sink_spec (len : Nat) (fuel : Nat) : ∀ (a : Array Item) (h : Nat),
    a.size = len → 0 < len → len ≤ fuel + h → HeapHole a h →
    HeapHole (sink len a fuel h).1 (sink len a fuel h).2 ∧
      (sink len a fuel h).1.size ≤ 2 * (sink len a fuel h).2 + 1 := by
  induction fuel with
  | zero =>
    intro a h hs hl hf H
    exact ⟨H, by simp only [sink]; omega⟩
  | succ fuel ih =>
    intro a h hs hl hf H
    rw [heap_sink_succ]
    split
    · rename_i hlt
      obtain ⟨c0, cp, cs, hc, sib⟩ := heap_child_spec a h (by rw [hs]; exact heap_two_children hlt)
      -- the hole moves to a child, a larger index (`hc`), so one unit of fuel less is enough
      have hfuel : len ≤ fuel + heap_childIdx a h :=
        Nat.le_trans hf (by rw [Nat.add_right_comm]; exact Nat.add_le_add_left hc fuel)
      exact ih _ _ (by rw [Array.size_swapIfInBounds]; exact hs) hl hfuel
        (heap_hole_step H c0 cp cs sib)
    · split
      · rename_i hlt heven
        have hlen := heap_one_child heven hl
        have hhl := heap_lt_left h
        -- `hlen` says all that is needed of the two guards; their `/ 2` and `% 2` only slow `omega`
        clear hlt heven
        refine ⟨heap_hole_step H (Nat.zero_lt_of_lt hhl) (heap_parent_left h) (by omega)
          fun s hs0 hsp hne => .of_size_le ?_, ?_⟩
        · rcases heap_child_of_parent hs0 hsp with rfl | rfl
          · exact absurd rfl hne
          · exact Nat.le_of_eq (hs.trans hlen.symm)
        · simp only [Array.size_swapIfInBounds]; omega
      · rename_i h1 h2
        exact ⟨H, by rw [hs]; exact heap_no_child h1 h2⟩

theorem heap_heapPop_isHeap (a : Array Item) (it : Item) (b : Array Item) :
    IsHeap a → heapPop a = some (it, b) → IsHeap b := by
  intro H hp
  cases h0 : a[0]? with
  | none => simp [heapPop, h0] at hp
  | some top =>
    rw [heap_heapPop_eq h0] at hp
    cases hp
    split
    · exact heap_isHeap_empty
    · rename_i h1
      have hsz : 0 < a.size := heap_lt_size_of_some h0
      have hbsz : (a.swapIfInBounds 0 (a.size - 1)).pop.size = a.size - 1 := by
        simp [Array.size_swapIfInBounds]
      -- with the root taken out the remaining edges are those of `a`
      have hole : HeapHole (a.swapIfInBounds 0 (a.size - 1)).pop 0 := by
        refine ⟨fun j hj _ hpj x v hx hv => ?_, fun h => absurd h (Nat.lt_irrefl 0)⟩
        rw [Array.getElem?_pop, Array.size_swapIfInBounds] at hx hv
        split at hv
        · rename_i hjlt
          have hplt := Nat.lt_trans (heap_parent_lt hj) hjlt
          rw [if_pos hplt, heap_swap_get_other _ _ _ _ hpj (Nat.ne_of_lt hplt)] at hx
          rw [heap_swap_get_other _ _ _ _ (Nat.ne_of_gt hj) (Nat.ne_of_lt hjlt)] at hv
          exact H j hj x v hx hv
        · cases hv
      obtain ⟨hh, hleaf⟩ := heap_sink_spec _ (a.swapIfInBounds 0 (a.size - 1)).pop.size _ 0 rfl
        (by omega) (Nat.le_refl _) hole
      exact heap_siftUp_isHeap _ _ _ (Nat.lt_succ_self _)
        ⟨hh, fun c hc hcp => .of_size_le (Nat.le_trans hleaf (heap_left_le_child hc hcp))⟩

theorem heap_isHeap_front_max (a : Array Item) (x : Item) :
    IsHeap a → a[0]? = some x → ∀ o ∈ a.toList, o.prio ≤ x.prio := by
  intro H h0
  have key : ∀ (k : Nat) (o : Item), a[k]? = some o → o.prio ≤ x.prio := by
    intro k
    induction k using Nat.strongRecOn with
    | _ k ih =>
      intro o ho
      by_cases hk : k = 0
      · subst hk
        rw [h0] at ho; cases ho
        exact Int.le_refl _
      · have hpk := heap_parent_lt (Nat.pos_of_ne_zero hk)
        have hps := Nat.lt_trans hpk (heap_lt_size_of_some ho)
        have hy : a[(k - 1) / 2]? = some a[(k - 1) / 2] := Array.getElem?_eq_getElem hps
        exact Int.le_trans (H k (Nat.pos_of_ne_zero hk) _ _ hy ho) (ih _ hpk _ hy)
  intro o ho
  obtain ⟨k, hk⟩ := List.mem_iff_getElem?.1 ho
  exact key k o (Array.getElem?_toList ▸ hk)

theorem popHeap_eq_heapPop {l : List Item} (H : IsHeap l.toArray) :
    popHeap l = (heapPop l.toArray).map (fun p => (p.1, p.2.toList)) := by
  cases l with
  | nil => simp [popHeap, heapPop]
  | cons top tl =>
    exact popHeap_of_front_max fun o ho => heap_isHeap_front_max _ top H (by simp) o (by simpa using ho)

theorem heap_pushHeap_isHeap {new old : List Item} (h : IsHeap old.toArray) :
    IsHeap (pushHeap new old).toArray := by
  suffices ∀ (arr : Array Item), IsHeap arr → IsHeap (new.foldl heapPush arr) by
    simpa [pushHeap] using this _ h
  induction new with
  | nil => exact fun _ h => h
  | cons x xs ih => exact fun arr h => ih _ (heap_heapPush_isHeap _ _ h)

theorem heap_popHeap_isHeap {l rest : List Item} {it : Item} (h : IsHeap l.toArray)
    (hp : popHeap l = some (it, rest)) : IsHeap rest.toArray := by
  rw [popHeap_eq_heapPop h] at hp
  obtain ⟨p, hq, e⟩ := Option.map_eq_some_iff.1 hp
  cases e
  simpa using heap_heapPop_isHeap _ p.1 p.2 h hq

theorem loop_agenda_isHeap (g : Grammar) (s : Sent) (cfg : Cfg) (fuel : Nat) (st : St) :
    IsHeap st.agenda.toArray → IsHeap (loop pickHeap g s cfg fuel st).agenda.toArray := by
  refine loop_inv (fun st => IsHeap st.agenda.toArray) (fun st st' h hs => ?_) fuel st
  obtain ⟨-, it, rest, hpop, hc⟩ := stepWith_cases hs
  have hrest : IsHeap rest.toArray := heap_popHeap_isHeap h hpop
  rcases hc with ⟨-, -, rfl⟩ | ⟨-, rfl⟩ | ⟨-, rfl⟩
  · exact hrest
  · exact hrest
  · exact heap_pushHeap_isHeap hrest

theorem init_agenda_isHeap (s : Sent) (cfg : Cfg) : IsHeap (init pickHeap s cfg).agenda.toArray :=
  heap_pushHeap_isHeap heap_isHeap_empty

theorem heap_swapIfInBounds_map {α β : Type} (f : α → β) (a : Array α) (i j : Nat) :
    (a.map f).swapIfInBounds i j = (a.swapIfInBounds i j).map f := by
  unfold Array.swapIfInBounds
  simp only [Array.size_map]
  split
  · split
    · apply Array.ext
      · simp
      · intro k h1 h2
        simp [Array.getElem_swap]
        split
        · rfl
        · split <;> rfl
    · rfl
  · rfl

section PrioMap
variable (f : Item → Item) (hf : ∀ x, (f x).prio = x.prio)
include hf

theorem heap_siftUp_map (fuel : Nat) : ∀ (a : Array Item) (i : Nat),
    siftUp (a.map f) fuel i = (siftUp a fuel i).map f := by
  induction fuel with
  | zero => intro a i; rfl
  | succ fuel ih =>
    intro a i
    simp only [siftUp]
    split
    · rfl
    · simp only [Array.getElem?_map]
      cases hp : a[(i - 1) / 2]? with
      | none => rfl
      | some x =>
        cases hi : a[i]? with
        | none => rfl
        | some v =>
          simp only [Option.map_some, hf]
          split
          · rw [heap_swapIfInBounds_map, ih]
          · rfl

theorem heap_heapPush_map (a : Array Item) (v : Item) :
    heapPush (a.map f) (f v) = (heapPush a v).map f := by
  unfold heapPush
  rw [← Array.map_push, heap_siftUp_map f hf, Array.size_map]

theorem heap_childIdx_map (a : Array Item) (h : Nat) :
    heap_childIdx (a.map f) h = heap_childIdx a h := by
  unfold heap_childIdx
  simp only [Array.getElem?_map]
  cases a[2 * (h + 1)]? <;> cases a[2 * (h + 1) - 1]? <;>
    simp only [Option.map_some, Option.map_none, hf]

theorem heap_sink_map (len : Nat) (fuel : Nat) : ∀ (a : Array Item) (h : Nat),
    sink len (a.map f) fuel h = ((sink len a fuel h).1.map f, (sink len a fuel h).2) := by
  induction fuel with
  | zero => intro a h; rfl
  | succ fuel ih =>
    intro a h
    simp only [heap_sink_succ, heap_childIdx_map f hf]
    split
    · rw [heap_swapIfInBounds_map, ih]
    · split
      · rw [heap_swapIfInBounds_map]
      · rfl

theorem heap_heapPop_map (a : Array Item) :
    heapPop (a.map f) = (heapPop a).map fun p => (f p.1, p.2.map f) := by
  unfold heapPop
  simp only [Array.getElem?_map, Array.size_map]
  cases a[0]? with
  | none => rfl
  | some top =>
    simp only [Option.map_some]
    split
    · simp
    · simp only [heap_swapIfInBounds_map, ← Array.map_pop, heap_sink_map f hf, Array.size_map,
        heap_siftUp_map f hf, Option.map_some]

theorem heap_foldl_heapPush_map (new : List Item) : ∀ (arr : Array Item),
    (new.map f).foldl heapPush (arr.map f) = (new.foldl heapPush arr).map f := by
  induction new with
  | nil => intro arr; rfl
  | cons x xs ih =>
    intro arr
    simp only [List.map_cons, List.foldl_cons, heap_heapPush_map f hf, ih]

theorem heap_pushHeap_map (new old : List Item) :
    pushHeap (new.map f) (old.map f) = (pushHeap new old).map f := by
  unfold pushHeap
  rw [← List.map_toArray, heap_foldl_heapPush_map f hf, Array.toList_map]

theorem heap_popHeap_map (l : List Item) :
    popHeap (l.map f) = (popHeap l).map fun q => (f q.1, q.2.map f) := by
  cases l with
  | nil => rfl
  | cons top xs =>
    have hg : ((f top :: xs.map f).all fun o => o.prio ≤ (f top).prio)
        = (top :: xs).all fun o => o.prio ≤ top.prio := by
      rw [← List.map_cons, List.all_map, hf]
      exact congrArg _ (funext fun o => by rw [Function.comp, hf])
    simp only [popHeap, List.map_cons, hg]
    split
    · rw [← List.map_cons, ← List.map_toArray, heap_heapPop_map f hf]
      cases heapPop (top :: xs).toArray with
      | none => rfl
      | some q => simp only [Option.map_some, Array.toList_map]
    · exact popFirstMax_map f hf (top :: xs)

end PrioMap

theorem pickHeap_nat : PickNat pickHeap :=
  fun f hf => ⟨heap_popHeap_map f hf, heap_pushHeap_map f hf⟩

end Depccg.SearchProps
