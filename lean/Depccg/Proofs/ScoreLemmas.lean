/-
  The score text of the record formats, `fmt8` (`'{:.8f}'` of `k/64`): its characters, and that it is a score field
  (`ScoreOK`) in every result.  The trees of the results as the printers see them: `scored` (record formats),
  `scoredK` (`json`, `html`, `jigg_xml`) and `treesOnly` (`prolog`, `xml`) show the same trees.
-/
import Depccg.Cli
import Depccg.Proofs.StrLemmas
import Depccg.Props.FileDefs
import Depccg.Proofs.Lit

namespace Depccg.FileProps
open Depccg Str Read

theorem fl_scoreOK_of_all (sc : Str) (h : sc.all (fun c => !isPySpace c) = true) : ScoreOK sc := by
  have hall : ∀ c ∈ sc, isPySpace c = false := by
    intro c hc
    have := List.all_eq_true.1 h c hc
    simpa using this
  refine ⟨fun hm => ?_, fun c hc => hall c (List.mem_of_getLast? hc)⟩
  have := hall 10 hm
  exact absurd this (by decide)

end Depccg.FileProps

namespace Depccg.CliProps
open Depccg Str Cli Lazy Read FileProps

theorem padDigits_spec {w m : Nat} (hw : 1 ≤ w) (hm : m < 10 ^ w) :
    (∀ c ∈ padDigits w m, 48 ≤ c ∧ c ≤ 57) ∧ (padDigits w m).length = w ∧
      ofDigits 0 (padDigits w m) = m := by
  have hlen := ofNat_length_le hw hm
  refine ⟨?_, ?_, ?_⟩
  · simp only [padDigits, List.forall_mem_append]
    exact ⟨fun c hc => by rw [List.eq_of_mem_replicate hc]; omega, ofNat_digits m⟩
  · simp only [padDigits, List.length_append, List.length_replicate]
    omega
  · simp only [padDigits, ofDigits_zeros, ofDigits_ofNat]

/-- the text of `a/64`: integer part, point, the six decimals of `(a % 64)/64`, two zeros -/
def fmt8Body (a : Nat) : Str :=
  Str.ofNat (a / 64) ++ [46] ++ padDigits 6 ((a % 64) * 15625) ++ [48, 48]

theorem fmt8_eq (k : Int) : fmt8 k = (if k < 0 then [45] else []) ++ fmt8Body k.natAbs := by
  unfold fmt8 fmt8Body
  simp only [List.append_assoc]

theorem fmt8Body_chars (a : Nat) : ∀ c ∈ fmt8Body a, c = 46 ∨ (48 ≤ c ∧ c ≤ 57) := by
  have hm : (a % 64) * 15625 < 10 ^ 6 := by omega
  unfold fmt8Body
  simp only [List.forall_mem_append]
  exact ⟨⟨⟨fun c hc => .inr (ofNat_digits _ c hc), by simp⟩,
    fun c hc => .inr ((padDigits_spec (by omega) hm).1 c hc)⟩, by simp⟩

theorem cli_scoreText_ok (k : Option Int) : ScoreOK (scoreText k) := by
  apply fl_scoreOK_of_all
  cases k with
  | none => decide_lit
  | some k =>
    rw [List.all_eq_true]
    intro c hc
    have hsp : ∀ c, c = 45 ∨ c = 46 ∨ (48 ≤ c ∧ c ≤ 57) → isPySpace c = false := by
      intro c h
      simp [isPySpace]
      omega
    simp only [scoreText, fmt8_eq, List.mem_append] at hc
    rw [hsp c, Bool.not_false]
    rcases hc with hc | hc
    · split at hc
      · exact .inl (List.mem_singleton.1 hc)
      · cases hc
    · exact .inr (fmt8Body_chars _ c hc)

theorem scored_eq (r : SentResult) :
    scored r = (scoredK r).map fun (p : Tree × Option Int) => (p.1, scoreText p.2) := by
  cases r with
  | failed => rfl
  | parsed ts => simp [scored, scoredK]

theorem scored_scoreOK (r : SentResult) : ∀ ts ∈ scored r, ScoreOK ts.2 := by
  rw [scored_eq]
  intro ts hts
  obtain ⟨p, -, rfl⟩ := List.mem_map.1 hts
  exact cli_scoreText_ok p.2

theorem scored_batchOK (p : Tree → Prop) (results : List SentResult)
    (h : ∀ r ∈ results, ∀ ts ∈ scored r, p ts.1) : BatchOK p (results.map scored) :=
  List.forall_mem_map.2 fun r hr ts hts => ⟨h r hr ts hts, scored_scoreOK r ts hts⟩

theorem scoredK_ne {r : SentResult} (h : r ≠ .parsed []) : scoredK r ≠ [] := by
  cases r with
  | failed => simp [scoredK]
  | parsed ts =>
    cases ts with
    | nil => exact absurd rfl h
    | cons p ps => simp [scoredK]

theorem forall_scoredK_iff {Q : Tree → Prop} (r : SentResult) :
    (∀ p ∈ scoredK r, Q p.1) ↔ ∀ ts ∈ scored r, Q ts.1 := by
  rw [scored_eq, List.forall_mem_map]

theorem forall_treesOnly {Q : Tree → Prop} {results : List SentResult} (h : ∀ r ∈ results, ∀ ts ∈ scored r, Q ts.1) :
    ∀ trees ∈ treesOnly results, ∀ t ∈ trees, Q t := by
  simp only [treesOnly, List.forall_mem_map]
  exact h

theorem scored_trees (r : SentResult) :
    (scored r).map (fun (p : Tree × Str) => p.1) = (scoredK r).map fun (p : Tree × Option Int) => p.1 := by
  rw [scored_eq, List.map_map]
  rfl

theorem treesOnly_eq (results : List SentResult) :
    ((results.map scoredK).map fun ts => ts.map fun (p : Tree × Option Int) => p.1) = treesOnly results := by
  unfold treesOnly
  rw [List.map_map]
  exact List.map_congr_left fun r _ => (scored_trees r).symm

end Depccg.CliProps
