/-
  The cursor of the line readers: `line.drop i` is what is still to be read, and `Fs line i fs post` says that
  it stands before the blank-separated fields `fs`; `next()` is then a pop (`Fs.next`), so the AUTO reader is
  followed one field at a time (`autoNode_leaf`, `autoNode_tree`).
-/
import Depccg.Props.C08Defs
import Depccg.Props.C19Defs
import Depccg.Props.C20Defs
import Depccg.Proofs.StrLemmas
import Depccg.Proofs.DictLemmas
import Depccg.Proofs.TreeLemmas

/-! "No character of `s` is one of `bad`" (`C20.noneOf bad s`) is the one form in which the printed texts
  are shown free of blanks, TABs, newlines, brackets …: it passes through `++`, `joinSep`, decimal
  numbers, attribute look-up and `denormalize`; `PlainWord`, `Cell`, `Field` are `noneOf` of a list of
  code points (`PlainWord.noneOf`, `C07.cell_iff_noneOf`, `C07.field_iff`). -/
namespace Depccg.C20
open Depccg Str

/-- closed texts by evaluation (short literals; long ones through `decide_lit`) -/
instance (bad : List Nat) (w : Str) : Decidable (noneOf bad w) := by
  unfold noneOf; infer_instance

theorem noneOf.notMem {bad : List Nat} {w : Str} (h : noneOf bad w) {c : Nat} (hc : c ∈ bad) : c ∉ w :=
  fun hm => h c hm hc

theorem noneOf.mono {bad bad' : List Nat} {w : Str} (h : noneOf bad w) (hs : bad' ⊆ bad) :
    noneOf bad' w := fun c hc hb => h c hc (hs hb)

theorem noneOf_cons {bad : List Nat} {c : Nat} {s : Str} : noneOf bad (c :: s) ↔ c ∉ bad ∧ noneOf bad s :=
  List.forall_mem_cons

theorem noneOf_append {bad : List Nat} {a b : Str} : noneOf bad (a ++ b) ↔ noneOf bad a ∧ noneOf bad b :=
  List.forall_mem_append

theorem noneOf_replicate {bad : List Nat} {c : Nat} (h : c ∉ bad) (n : Nat) : noneOf bad (List.replicate n c) :=
  fun _ hx => List.eq_of_mem_replicate hx ▸ h

theorem noneOf_joinSep {bad : List Nat} {sep : Nat} {parts : List Str} :
    noneOf bad (joinSep sep parts) ↔ (∀ p ∈ parts, noneOf bad p) ∧ (2 ≤ parts.length → sep ∉ bad) :=
  forall_mem_joinSep

theorem noneOf_ofNat {bad : List Nat} (h : ∀ c ∈ bad, c < 48 ∨ 57 < c) (n : Nat) : noneOf bad (Str.ofNat n) :=
  fun c hc hb => ofNat_notMem n (h c hb) hc

end Depccg.C20

namespace Depccg.TextProps
open Depccg Str Print Read
open Depccg.C20 (noneOf noneOf_append noneOf_cons noneOf_joinSep)

theorem charAt_of_drop {line : Str} {i c : Nat} {r : Str} (h : line.drop i = c :: r) :
    charAt line i = .ok c := by
  have : line[i]? = some c := by rw [← List.head?_drop, h]; rfl
  simp [charAt, this]

theorem drop_field {line : Str} {i t : Nat} {f r : Str} (h : line.drop i = f ++ t :: r) :
    line.drop (i + f.length + 1) = r := by
  rw [Nat.add_assoc, ← List.drop_drop, h]; simp

/-- `autoNext line i` is `jaNext line i 32` by unfolding (`Read/Text.lean` has the function twice), so this one
    lemma serves both readers: `Fs.next` uses it for `autoNext`. -/
theorem next_field {line : Str} {i t : Nat} {f r : Str} (hf : t ∉ f) (h : line.drop i = f ++ t :: r) :
    jaNext line i t = (f, i + f.length + 1) := by
  simp [jaNext, h, findChar_append t f r hf]

def Fs (line : Str) (i : Nat) (fs : List Str) (post : Str) : Prop :=
  line.drop i = joinSep 32 fs ++ post

theorem Fs.char {line : Str} {i c : Nat} {f post : Str} {fs : List Str}
    (h : Fs line i ((c :: f) :: fs) post) : charAt line i = .ok c := by
  cases fs with
  | nil => exact charAt_of_drop (h.trans rfl)
  | cons g fs => exact charAt_of_drop (h.trans (by rw [joinSep_cons 32 _ (by simp)]; rfl))

theorem Fs.next {line : Str} {i : Nat} {f g post : Str} {fs : List Str}
    (h : Fs line i (f :: g :: fs) post) (hf : 32 ∉ f) :
    ∃ j, autoNext line i = (f, j) ∧ Fs line j (g :: fs) post := by
  have hd : line.drop i = f ++ 32 :: (joinSep 32 (g :: fs) ++ post) := by
    rw [h, joinSep_cons 32 f (by simp)]; simp
  exact ⟨_, next_field hf hd, drop_field hd⟩

theorem Fs.next_snd {line : Str} {i : Nat} {f g post : Str} {fs : List Str}
    (h : Fs line i (f :: g :: fs) post) (hf : 32 ∉ f) : Fs line (autoNext line i).2 (g :: fs) post := by
  obtain ⟨j, e, d⟩ := h.next hf
  rwa [e]

/-- `parse_leaf` on the fields `(<L cat t1 t2 word last`; the cursor is left at `last` -/
theorem autoNode_leaf (lang : Lang) {line : Str} (fuel : Nat) {idx : Nat} (toks : List Token)
    {catT t1 t2 w last post : Str} {more : List Str} {cat : Cat}
    (hd : Fs line idx (lit "(<L" :: catT :: t1 :: t2 :: w :: last :: more) post)
    (hc : 32 ∉ catT) (h1 : 32 ∉ t1) (h2 : 32 ∉ t2) (hw : 32 ∉ w)
    (hp : Cat.parse (fixCat catT) = .ok cat) :
    ∃ i5, Fs line i5 (last :: more) post ∧
      autoNode lang line (fuel + 1) idx toks =
        .ok (Tree.mkTerminal (autoToken (dropBackslashes w) t1 t2) cat, (autoNext line i5).2,
          toks ++ [autoToken (dropBackslashes w) t1 t2]) := by
  obtain ⟨i1, e1, d1⟩ := hd.next (by decide)
  obtain ⟨i2, e2, d2⟩ := d1.next hc
  obtain ⟨i3, e3, d3⟩ := d2.next h1
  obtain ⟨i4, e4, d4⟩ := d3.next h2
  obtain ⟨i5, e5, d5⟩ := d4.next hw
  refine ⟨i5, d5, ?_⟩
  have c0 : charAt line idx = .ok 40 := hd.char
  have c1 : charAt line (idx + 1) = .ok 60 := charAt_of_drop (r := 76 :: _) (by rw [← List.drop_drop, hd]; rfl)
  have c2 : charAt line (idx + 2) = .ok 76 := charAt_of_drop (by rw [← List.drop_drop, hd]; rfl)
  rw [autoNode]
  simp only [c0, c1, c2, e1, e2, hp, e3, e4, e5]
  rfl

/-- `parse_tree` on the fields `(<T cat head arity …`: the children loop starts at the fifth field, and
    the node is made of what it returns -/
theorem autoNode_tree (lang : Lang) {line : Str} (fuel : Nat) {idx : Nat} (toks : List Token)
    {catT h k g post : Str} {more : List Str} {cat : Cat}
    (hd : Fs line idx (lit "(<T" :: catT :: h :: k :: g :: more) post)
    (hc : 32 ∉ catT) (hh : 32 ∉ h) (hk : 32 ∉ k) (hp : Cat.parse (fixCat catT) = .ok cat) :
    ∃ i4, Fs line i4 (g :: more) post ∧ ∀ {children : List Tree} {i5 : Nat} {toks' : List Token},
      autoChildren lang line fuel i4 toks [] = .ok (children, i5, toks') →
      autoNode lang line (fuel + 1) idx toks =
        match (generalizing := false) children with
        | [l, r] =>
          match guess lang cat l.cat r.cat with
          | .error e => .error e
          | .ok rule =>
            .ok (.bin cat rule.opString rule.opSymbol (h == lit "0") l r, (autoNext line i5).2, toks')
        | [ch] => .ok (Tree.mkUnary cat ch, (autoNext line i5).2, toks')
        | _ => .error .runtime := by
  obtain ⟨i1, e1, d1⟩ := hd.next (by decide)
  obtain ⟨i2, e2, d2⟩ := d1.next hc
  obtain ⟨i3, e3, d3⟩ := d2.next hh
  obtain ⟨i4, e4, d4⟩ := d3.next hk
  refine ⟨i4, d4, fun hch => ?_⟩
  have c0 : charAt line idx = .ok 40 := hd.char
  have c1 : charAt line (idx + 1) = .ok 60 := charAt_of_drop (r := 84 :: _) (by rw [← List.drop_drop, hd]; rfl)
  have c2 : charAt line (idx + 2) = .ok 84 := charAt_of_drop (by rw [← List.drop_drop, hd]; rfl)
  rw [autoNode]
  simp only [c0, c1, c2, e1, e2, hp, e3, e4, hch]
  rfl

theorem autoChildren_stop (lang : Lang) {line : Str} (fuel : Nat) {idx : Nat} {toks : List Token}
    {acc : List Tree} {fs : List Str} {post : Str} (h : Fs line idx (lit ")" :: fs) post) :
    autoChildren lang line (fuel + 1) idx toks acc = .ok (acc, idx, toks) := by
  rw [autoChildren, h.char (c := 41) (f := [])]
  rfl

theorem autoChildren_step (lang : Lang) {line : Str} (fuel : Nat) {idx : Nat} (toks : List Token)
    (acc : List Tree) {f post : Str} {fs : List Str} {t : Tree} {idx' : Nat} {toks' : List Token}
    (h : Fs line idx ((40 :: f) :: fs) post) (hn : autoNode lang line fuel idx toks = .ok (t, idx', toks')) :
    autoChildren lang line (fuel + 1) idx toks acc =
      autoChildren lang line fuel idx' toks' (acc ++ [t]) := by
  rw [autoChildren, h.char, hn]
  rfl

theorem get_ok_iff {t : Token} {k v : Str} : Token.get t k = .ok v ↔ Token.get? t k = some v := by
  simp only [Token.get, Token.get?]
  cases Dict.get? t k <;> simp

theorem get_of_get? {t : Token} {k v : Str} (h : Token.get? t k = some v) : Token.get t k = .ok v :=
  get_ok_iff.2 h

theorem get?_of_get {t : Token} {k v : Str} (h : Token.get t k = .ok v) : Token.get? t k = some v :=
  get_ok_iff.1 h

theorem getD_of_get? {t : Token} {k d v : Str} (h : Token.get? t k = some v) : Token.getD t k d = v := by
  simp only [Token.get?] at h
  simp [Token.getD, h]

theorem getD_cases (t : Token) (k d : Str) : Token.getD t k d = d ∨ ∃ kv ∈ t, Token.getD t k d = kv.2 := by
  cases h : Token.get? t k with
  | none => exact Or.inl (by simp only [Token.get?] at h; simp [Token.getD, h])
  | some v => exact Or.inr ⟨_, C06.mem_of_get? h, getD_of_get? h⟩

theorem TokOK.word {t : Token} (h : TokOK t) : ∃ w, Token.get t (lit "word") = .ok w ∧ PlainWord w := by
  obtain ⟨⟨w, hw⟩, hall⟩ := h
  exact ⟨w, get_of_get? hw, hall _ (C06.mem_of_get? hw)⟩

/-- `brackets`: the six one-character words `denormalize` replaces; `escapes`: what it replaces them by;
    `escChars`: the letters of `escapes` and of `-LAB-`, `-RAB-`, the only characters `denormalize` brings in. -/
def brackets : List Nat := [40, 41, 123, 125, 91, 93]

def escapes : List Str := [lit "-LRB-", lit "-RRB-", lit "-LCB-", lit "-RCB-", lit "-LSB-", lit "-RSB-"]

def escChars : List Nat := [45, 76, 82, 66, 67, 83, 65]

theorem denormalize_cases (w : Str) :
    ((∃ c ∈ brackets, w = [c]) ∧ denormalize w ∈ escapes) ∨
    ((∀ c ∈ brackets, w ≠ [c]) ∧
      denormalize w = replaceChar cLt (lit "-LAB-") (replaceChar cGt (lit "-RAB-") w)) := by
  by_cases hw : ∃ c ∈ brackets, w = [c]
  · obtain ⟨c, hc, rfl⟩ := hw
    exact Or.inl ⟨⟨c, hc, rfl⟩, (by decide +kernel : ∀ c ∈ brackets, denormalize [c] ∈ escapes) c hc⟩
  · have hne : ∀ c ∈ brackets, w ≠ [c] := fun c hc e => hw ⟨c, hc, e⟩
    have : ∀ c ∈ brackets, (w == [c]) = false := fun c hc => by simpa using hne c hc
    simp only [brackets, List.forall_mem_cons] at this
    obtain ⟨h1, h2, h3, h4, h5, h6, _⟩ := this
    exact Or.inr ⟨hne, by simp [denormalize, lit, h1, h2, h3, h4, h5, h6]⟩

theorem normalize_mem {w : Str} {c : Nat} (h : c ∈ normalize w) : c ∈ w ∨ c ∈ brackets := by
  by_cases hw : w ∈ escapes
  · exact Or.inr ((by decide +kernel : ∀ e ∈ escapes, ∀ c ∈ normalize e, c ∈ brackets) w hw c h)
  · have : ∀ e ∈ escapes, (w == e) = false := fun e he => by
      simpa using fun (heq : w = e) => hw (heq ▸ he)
    simp only [escapes, List.forall_mem_cons] at this
    obtain ⟨h1, h2, h3, h4, h5, h6, _⟩ := this
    simp only [normalize, h1, h2, h3, h4, h5, h6, Bool.false_eq_true, if_false] at h
    exact Or.inl h

theorem denormalize_mem {w : Str} {c : Nat} (h : c ∈ denormalize w) : c ∈ w ∨ c ∈ escChars := by
  have escapes_chars : ∀ e ∈ escapes, ∀ c ∈ e, c ∈ escChars := by decide
  have lab_chars : ∀ c ∈ lit "-LAB-", c ∈ escChars := by decide
  have rab_chars : ∀ c ∈ lit "-RAB-", c ∈ escChars := by decide
  rcases denormalize_cases w with ⟨_, he⟩ | ⟨_, he⟩
  · exact Or.inr (escapes_chars _ he _ h)
  · rw [he] at h
    rcases mem_replaceChar.1 h with ⟨h, _⟩ | ⟨h, _⟩
    · exact Or.inr (lab_chars _ h)
    · rcases mem_replaceChar.1 h with ⟨h, _⟩ | ⟨h, _⟩
      · exact Or.inr (rab_chars _ h)
      · exact Or.inl h

theorem mem_denormalize_iff {w : Str} {c : Nat} (h1 : c ∉ brackets) (h2 : c ≠ cLt) (h3 : c ≠ cGt)
    (h4 : c ∉ escChars) : c ∈ denormalize w ↔ c ∈ w := by
  refine ⟨fun h => (denormalize_mem h).resolve_right h4, fun h => ?_⟩
  rcases denormalize_cases w with ⟨⟨b, hb, rfl⟩, _⟩ | ⟨_, he⟩
  · exact absurd (List.mem_singleton.1 h ▸ hb) h1
  · rw [he]
    exact mem_replaceChar.2 (Or.inr ⟨mem_replaceChar.2 (Or.inr ⟨h, h3⟩), h2⟩)

theorem denormalize_idem (w : Str) : denormalize (denormalize w) = denormalize w := by
  rcases denormalize_cases w with ⟨_, he⟩ | ⟨hw, he⟩
  · have : ∀ e ∈ escapes, denormalize e = e := by decide
    exact this _ he
  · rcases denormalize_cases (denormalize w) with ⟨⟨c, hc, hs⟩, _⟩ | ⟨_, he'⟩
    · exfalso
      rw [he] at hs
      exact hw c hc (replaceChar_eq_singleton (by decide)
        (replaceChar_eq_singleton (by decide) hs))
    · rw [he', he, replaceChar_id (notMem_replaceChar (by decide) (notMem_replaceChar_self w (by decide))),
        replaceChar_id (notMem_replaceChar_self _ (by decide))]

theorem dropBackslashes_id {w : Str} (h : cBSlash ∉ w) : dropBackslashes w = w := by
  simp only [dropBackslashes]
  rw [List.filter_eq_self]
  intro a ha
  simp only [bne_iff_ne, ne_eq]
  intro e
  exact h (e ▸ ha)

theorem noneOf_denormalize {bad : List Nat}
    (h : ∀ c ∈ bad, c ∉ brackets ∧ c ≠ cLt ∧ c ≠ cGt ∧ c ∉ escChars) {w : Str} :
    noneOf bad (denormalize w) ↔ noneOf bad w := by
  refine ⟨fun hn c hc hb => ?_, fun hn c hc hb => ?_⟩ <;> obtain ⟨h1, h2, h3, h4⟩ := h c hb
  · exact hn c ((mem_denormalize_iff h1 h2 h3 h4).2 hc) hb
  · exact hn c ((mem_denormalize_iff h1 h2 h3 h4).1 hc) hb

theorem PlainWord.noneOf {w : Str} (h : PlainWord w) : noneOf [32, 9, 10, 13, 92] w := by
  simpa [C20.noneOf, cBSlash] using h.2

theorem tokOK_noneOf {tok : Token} (h : TokOK tok) : ∀ kv ∈ tok, noneOf [32, 9, 10, 13, 92] kv.2 :=
  fun kv hkv => (h.2 kv hkv).noneOf

theorem TokOK.getD_noneOf {tok : Token} {k d : Str} (h : TokOK tok) (hd : noneOf [32, 9, 10, 13, 92] d) :
    noneOf [32, 9, 10, 13, 92] (Token.getD tok k d) := by
  rcases getD_cases tok k d with e | ⟨kv, hkv, e⟩ <;> rw [e]
  · exact hd
  · exact tokOK_noneOf h kv hkv

theorem denormalize_noneOf {w : Str} (hw : PlainWord w) : noneOf [32, 9, 10, 13, 92] (denormalize w) :=
  (noneOf_denormalize (by decide)).2 hw.noneOf

theorem TokOK.word_noneOf {t : Token} (h : TokOK t) :
    noneOf [32, 9, 10, 13, 92] (denormalize (Token.getD t (lit "word") [])) := by
  obtain ⟨w, hw, hp⟩ := TokOK.word h
  rw [getD_of_get? (get?_of_get hw)]
  exact denormalize_noneOf hp

end Depccg.TextProps

namespace Depccg.C08
open Depccg Str Print TextProps

theorem getD_ne_nil {t : Token} {k d : Str} (ht : ∀ kv ∈ t, kv.2 ≠ []) (hd : d ≠ []) :
    Token.getD t k d ≠ [] := by
  rcases getD_cases t k d with h | ⟨kv, hkv, h⟩ <;> rw [h]
  · exact hd
  · exact ht kv hkv

theorem denormalize_ne_nil {w : Str} (hw : w ≠ []) : denormalize w ≠ [] := by
  rcases denormalize_cases w with ⟨_, he⟩ | ⟨_, he⟩
  · intro e; rw [e] at he; revert he; decide
  · rw [he]
    intro e
    exact hw (replaceChar_eq_nil (by decide) (replaceChar_eq_nil (by decide) e))

def PlainCh (c : Nat) : Prop := c ≠ 32 ∧ c ≠ 9 ∧ c ≠ 10 ∧ c ≠ 13 ∧ c ≠ cBSlash

theorem PlainCh.ne_space {c : Nat} (h : PlainCh c) : c ≠ 32 := h.1

end Depccg.C08
