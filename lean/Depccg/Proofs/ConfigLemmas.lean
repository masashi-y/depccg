/-
  `read_params` (Config.lean). The loop over `unary_rules` is `mapExcept parsePair` followed by a fold
  of `appendKey` (`unaryTable_eq`), so an entry of the table is the targets of its lines in file order
  (`unaryTable_lookup`) and every target is a parsed string of the file (`unaryTable_targets`);
  `readParams` returns iff its four parts do (`readParams_ok_iff`), and each part returns when every
  string it reads parses.
-/
import Depccg.Proofs.C14Lemmas
import Depccg.Props.ConfigDefs
import Depccg.Props.C13
import Depccg.Proofs.ExceptLemmas

namespace Depccg.ConfigProps
open Depccg Str Config

-- for evaluating `readParams` on concrete configurations
deriving instance DecidableEq for Config.Loaded

theorem lookup_appendKey (tbl : List (Cat × List Cat)) (k v x : Cat) :
    C14.lookup (appendKey tbl k v) x =
      if k = x then some ((C14.lookup tbl x).getD [] ++ [v]) else C14.lookup tbl x := by
  induction tbl with
  | nil =>
    simp only [appendKey, C14.lookup_cons]
    by_cases h : k = x <;> simp [h, C14.lookup]
  | cons p rest ih =>
    obtain ⟨k', vs⟩ := p
    simp only [appendKey, C13.pyEq_decide, decide_eq_true_eq]
    by_cases hk : k' = k
    · subst hk
      simp only [if_true, C14.lookup_cons]
      by_cases h : k' = x <;> simp [h]
    · simp only [if_neg hk, C14.lookup_cons, ih]
      by_cases h' : k' = x
      · simp [h', show k ≠ x from fun e => hk (h'.trans e.symm)]
      · simp [h']

theorem cf_targetsOf_nil (x : Cat) : targetsOf [] x = [] := rfl

theorem cf_targetsOf_cons (a b : Cat) (ps : List (Cat × Cat)) (x : Cat) :
    targetsOf ((a, b) :: ps) x = if a = x then b :: targetsOf ps x else targetsOf ps x := by
  simp only [targetsOf, List.filter_cons, C13.pyEq_decide]
  by_cases h : a = x <;> simp [h]

theorem unaryTable_eq : ∀ (pairs : List (Str × Str)) (tbl : List (Cat × List Cat)),
    unaryTable tbl pairs =
      (Cli.mapExcept parsePair pairs).map fun ps => ps.foldl (fun t q => appendKey t q.1 q.2) tbl
  | [], _ => rfl
  | (ks, vs) :: rest, tbl => by
    simp only [unaryTable, Cli.mapExcept, parsePair]
    cases Cat.parse ks with
    | error e => rfl
    | ok k =>
      cases Cat.parse vs with
      | error e => rfl
      | ok v =>
        simp only [unaryTable_eq rest]
        cases Cli.mapExcept parsePair rest <;> rfl

theorem unaryTable_ok_iff {pairs : List (Str × Str)} {tbl tbl' : List (Cat × List Cat)} :
    unaryTable tbl pairs = .ok tbl' ↔ ∃ ps, Cli.mapExcept parsePair pairs = .ok ps ∧
      ps.foldl (fun t q => appendKey t q.1 q.2) tbl = tbl' := by
  rw [unaryTable_eq]
  cases Cli.mapExcept parsePair pairs <;> simp [Except.map]

theorem lookup_foldl_appendKey (x : Cat) : ∀ (ps : List (Cat × Cat)) (tbl : List (Cat × List Cat)),
    (C14.lookup (ps.foldl (fun t q => appendKey t q.1 q.2) tbl) x).getD [] =
      (C14.lookup tbl x).getD [] ++ targetsOf ps x
  | [], tbl => by simp [cf_targetsOf_nil]
  | (k, v) :: ps, tbl => by
    rw [List.foldl_cons, lookup_foldl_appendKey x ps, lookup_appendKey, cf_targetsOf_cons]
    by_cases hx : k = x <;> simp [hx]

theorem mem_appendKey {tbl : List (Cat × List Cat)} {k v : Cat} {p : Cat × List Cat}
    (hp : p ∈ appendKey tbl k v) : ∀ c ∈ p.2, c = v ∨ ∃ q ∈ tbl, c ∈ q.2 := by
  induction tbl with
  | nil =>
    intro c hc
    rw [List.mem_singleton.1 hp] at hc
    exact Or.inl (List.mem_singleton.1 hc)
  | cons q rest ih =>
    obtain ⟨k', vs⟩ := q
    intro c hc
    simp only [appendKey] at hp
    split at hp
    · rcases List.mem_cons.1 hp with rfl | hp
      · rcases List.mem_append.1 hc with hc | hc
        · exact Or.inr ⟨_, List.mem_cons_self, hc⟩
        · exact Or.inl (List.mem_singleton.1 hc)
      · exact Or.inr ⟨p, List.mem_cons_of_mem _ hp, hc⟩
    · rcases List.mem_cons.1 hp with rfl | hp
      · exact Or.inr ⟨_, List.mem_cons_self, hc⟩
      · exact (ih hp c hc).imp_right fun ⟨q, hq, h⟩ => ⟨q, List.mem_cons_of_mem _ hq, h⟩

theorem mem_foldl_appendKey : ∀ (ps : List (Cat × Cat)) {tbl : List (Cat × List Cat)}
    {p : Cat × List Cat}, p ∈ ps.foldl (fun t q => appendKey t q.1 q.2) tbl →
    ∀ c ∈ p.2, (∃ q ∈ ps, c = q.2) ∨ ∃ q ∈ tbl, c ∈ q.2
  | [], _, _, hp, _, hc => .inr ⟨_, hp, hc⟩
  | (k, v) :: ps, _, _, hp, c, hc => by
    rcases mem_foldl_appendKey ps hp c hc with ⟨q, hq, e⟩ | ⟨q, hq, hcq⟩
    · exact .inl ⟨q, List.mem_cons_of_mem _ hq, e⟩
    · rcases mem_appendKey hq c hcq with rfl | h
      · exact .inl ⟨_, List.mem_cons_self, rfl⟩
      · exact .inr h

theorem parsePair_ok_inv {q : Str × Str} {r : Cat × Cat} (h : parsePair q = .ok r) :
    Cat.parse q.1 = .ok r.1 ∧ Cat.parse q.2 = .ok r.2 := by
  unfold parsePair at h
  split at h
  · cases h
  · next a ha =>
    split at h
    · cases h
    · next b hb =>
      cases h
      exact ⟨ha, hb⟩

theorem unaryTable_targets {P : Cat → Prop} (hP : ∀ s c, Cat.parse s = .ok c → P c)
    {pairs : List (Str × Str)} {tbl tbl' : List (Cat × List Cat)} (h : unaryTable tbl pairs = .ok tbl')
    (ht : ∀ p ∈ tbl, ∀ c ∈ p.2, P c) : ∀ p ∈ tbl', ∀ c ∈ p.2, P c := by
  obtain ⟨ps, hps, rfl⟩ := unaryTable_ok_iff.1 h
  intro p hp c hc
  rcases mem_foldl_appendKey ps hp c hc with ⟨q, hq, rfl⟩ | ⟨q, hq, hcq⟩
  · obtain ⟨s, -, hs⟩ := Cli.mapExcept_mem hps q hq
    exact hP s.2 _ (parsePair_ok_inv hs).2
  · exact ht q hq c hcq

theorem unaryTable_lookup {pairs : List (Str × Str)} {tbl : List (Cat × List Cat)}
    {ps : List (Cat × Cat)} (h : unaryTable [] pairs = .ok tbl)
    (hps : Cli.mapExcept parsePair pairs = .ok ps) (x : Cat) :
    (C14.lookup tbl x).getD [] = targetsOf ps x := by
  obtain ⟨ps', hps', rfl⟩ := unaryTable_ok_iff.1 h
  cases hps.symm.trans hps'
  rw [lookup_foldl_appendKey]
  exact List.nil_append _

theorem readParams_ok_iff {p : Params} {dd ds : Bool} {L : Loaded} :
    readParams p dd ds = .ok L ↔
    unaryTable [] p.unaryRules = .ok L.table ∧
    (if dd then .ok none else (Cli.mapExcept dictEntry p.catDict).map some) = .ok L.catDict ∧
    (if ds then .ok none else seenSet p.seenRules) = .ok L.seen ∧
    Cli.mapExcept Cat.parse p.targets = .ok L.roots := by
  constructor
  · intro h
    unfold readParams at h
    revert h
    generalize unaryTable [] p.unaryRules = a
    generalize (if dd then Except.ok none else (Cli.mapExcept dictEntry p.catDict).map some) = b
    generalize (if ds then Except.ok none else seenSet p.seenRules) = c
    generalize Cli.mapExcept Cat.parse p.targets = d
    intro h
    cases a <;> cases b <;> cases c <;> cases d <;> cases h
    exact ⟨rfl, rfl, rfl, rfl⟩
  · rintro ⟨h1, h2, h3, h4⟩
    simp only [readParams, h1, h2, h3, h4]

theorem cf_seenSet_of_ok {pairs : List (Str × Str)} {S : List (Cat × Cat)}
    (h : Cli.mapExcept seenPair pairs = .ok S) :
    seenSet pairs = .ok (if S = [] then none else some S) := by
  simp only [seenSet, h]
  cases S with
  | nil => rfl
  | cons a as => simp

theorem cf_readParams_seen {p : Params} {dd : Bool} {L : Loaded} {S : List (Cat × Cat)}
    (h : readParams p dd false = .ok L) (hS : Cli.mapExcept seenPair p.seenRules = .ok S)
    (hne : p.seenRules ≠ []) : L.seen = some S := by
  obtain ⟨-, -, hs, -⟩ := readParams_ok_iff.1 h
  simp only [Bool.false_eq_true, if_false] at hs
  have hS' : S ≠ [] := fun e => hne (List.eq_nil_of_length_eq_zero (by rw [Cli.mapExcept_length hS, e]; rfl))
  rw [cf_seenSet_of_ok hS, if_neg hS'] at hs
  exact (Except.ok.inj hs).symm

theorem cf_parsePair_total (q : Str × Str)
    (h : (∃ c, Cat.parse q.1 = .ok c) ∧ (∃ c, Cat.parse q.2 = .ok c)) : ∃ r, parsePair q = .ok r := by
  obtain ⟨⟨a, ha⟩, ⟨b, hb⟩⟩ := h
  exact ⟨(a, b), by simp only [parsePair, ha, hb]⟩

theorem cf_seenPair_total (q : Str × Str)
    (h : (∃ c, Cat.parse q.1 = .ok c) ∧ (∃ c, Cat.parse q.2 = .ok c)) : ∃ r, seenPair q = .ok r := by
  obtain ⟨⟨a, ha⟩, ⟨b, hb⟩⟩ := h
  -- `Config.nbX` and `C14.nbX` are the same list under two names
  have h1 : Cat.clear Config.nbX a = _ := C14.clear_nbX_eq a
  have h2 : Cat.clear Config.nbX b = _ := C14.clear_nbX_eq b
  simp only [seenPair, ha, hb, h1, h2]
  exact ⟨_, rfl⟩

theorem cf_seenSet_total (pairs : List (Str × Str))
    (h : ∀ q ∈ pairs, (∃ c, Cat.parse q.1 = .ok c) ∧ (∃ c, Cat.parse q.2 = .ok c)) :
    ∃ r, seenSet pairs = .ok r := by
  obtain ⟨S, hS⟩ := Cli.mapExcept_total seenPair pairs fun q hq => cf_seenPair_total q (h q hq)
  exact ⟨_, cf_seenSet_of_ok hS⟩

theorem cf_dictEntry_total (q : Str × List Str) (h : ∀ s ∈ q.2, ∃ c, Cat.parse s = .ok c) :
    ∃ r, dictEntry q = .ok r := by
  obtain ⟨cs, hcs⟩ := Cli.mapExcept_total Cat.parse q.2 h
  simp only [dictEntry, hcs]
  exact ⟨_, rfl⟩

end Depccg.ConfigProps
