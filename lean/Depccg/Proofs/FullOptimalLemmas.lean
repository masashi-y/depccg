/-
  Every derivation the rule functions license (`CLicensed`, over categories) has an id-level
  counterpart licensed by the rule functions' grammar under every numbering that holds its
  categories (`fo_grammarN`), and the lazy run is the plain search over that grammar
  (`lz_run_grammarN`).
-/
import Depccg.Props.FullOptimalDefs
import Depccg.Props.LazySearch
import Depccg.Proofs.CompleteCacheLemmas

namespace Depccg.FullOptimal
open Depccg Search SearchProps GlueTree GlueRun Lazy LazyProps GlueRunProps

/-- `d` is `cd` with every category replaced by an id the table `cats` gives it -/
inductive Match (cats : List Cat) : CDeriv → Deriv → Prop
  | leaf (t col : Nat) (c : Cat) : cats[col]? = some c → Match cats (.leaf t col c) (.leaf t col)
  | un (c : Cat) (rid : Nat) (cd : CDeriv) (i : Nat) (d : Deriv) : cats[i]? = some c → Match cats cd d →
      Match cats (.un c rid cd) (.un i rid d)
  | bin (c : Cat) (rid : Nat) (hl : Bool) (l r : CDeriv) (i : Nat) (dl dr : Deriv) : cats[i]? = some c →
      Match cats l dl → Match cats r dr → Match cats (.bin c rid hl l r) (.bin i rid hl dl dr)

theorem fo_match_cat {cats : List Cat} {cd : CDeriv} {d : Deriv} (h : Match cats cd d) :
    cats[dcat d]? = some (ccat cd) := by
  cases h <;> assumption

/-- everything spans, heads and scores depend on -/
structure SameShape (s : Sent) (d d' : Deriv) : Prop where
  start : dstart d = dstart d'
  len : dlen d = dlen d'
  head : dhead d = dhead d'
  nun : nUnary d = nUnary d'
  tag : tagSum s d = tagSum s d'
  dep : depSum s d = depSum s d'
  leaves : leafCats d = leafCats d'

theorem fo_match_skel {cats : List Cat} (s : Sent) {cd : CDeriv} {d : Deriv} (h : Match cats cd d) :
    SameShape s d (skel cd) := by
  induction h with
  | leaf => exact ⟨rfl, rfl, rfl, rfl, rfl, rfl, rfl⟩
  | un c rid cd i d _ _ ih => exact ⟨ih.start, ih.len, ih.head, congrArg (· + 1) ih.nun, ih.tag, ih.dep, ih.leaves⟩
  | bin c rid hl l r i dl dr _ _ _ il ir =>
    refine ⟨il.start, ?_, ?_, ?_, ?_, ?_, ?_⟩
    · simp only [dlen, skel, il.len, ir.len]
    · simp only [dhead, skel, il.head, ir.head]
    · simp only [nUnary, skel, il.nun, ir.nun]
    · simp only [tagSum, skel, il.tag, ir.tag]
    · simp only [depSum, skel, il.dep, ir.dep, il.head, ir.head]
    · simp only [leafCats, skel, il.leaves, ir.leaves]

theorem fo_match_score {cats : List Cat} (s : Sent) (cfg : Cfg) {cd : CDeriv} {d : Deriv}
    (h : Match cats cd d) : cScore s cfg cd = modelScore s cfg d := by
  have m := fo_match_skel s h
  simp only [cScore, modelScore, m.head, m.nun, m.tag, m.dep]

def ccats : CDeriv → List Cat
  | .leaf _ _ c => [c]
  | .un c _ d => c :: ccats d
  | .bin c _ _ l r => c :: (ccats l ++ ccats r)

theorem fo_grammarN (G : GlueRun.CatGrammar) {categories U : List Cat} (hp : categories <+: U)
    {s : Sent} {cfg : Cfg} {cd : CDeriv} (hcd : CLicensed G categories s cfg cd)
    (hall : ∀ c ∈ ccats cd, c ∈ U) : ∃ d, Licensed (grammarN G U) s cfg d ∧ Match U cd d := by
  induction hcd with
  | leaf t col c sc ht hadm hc =>
    exact ⟨.leaf t col, .leaf t col sc ht hadm, .leaf t col c (gr_prefix_get hp hc)⟩
  | un c rid cd r _ hr hrc hn ih =>
    obtain ⟨d1, hl1, hm1⟩ := ih fun c hc => hall c (List.mem_cons_of_mem _ hc)
    refine ⟨.un (U.idxOf c) rid d1, .un _ rid d1 hl1 ?_ ((fo_match_skel s hm1).len ▸ hn),
      .un c rid cd _ d1 (gr_get_idxOf (hall c List.mem_cons_self)) hm1⟩
    rw [grammarN_un (fo_match_cat hm1), List.getElem?_map, hr, ← hrc]
    rfl
  | bin c rid hl l r res _ _ hadj hr hrc hrh ihl ihr =>
    obtain ⟨d1, hl1, hm1⟩ := ihl fun c hc =>
      hall c (List.mem_cons_of_mem _ (List.mem_append_left _ hc))
    obtain ⟨d2, hl2, hm2⟩ := ihr fun c hc =>
      hall c (List.mem_cons_of_mem _ (List.mem_append_right _ hc))
    have ml := fo_match_skel s hm1
    have mr := fo_match_skel s hm2
    refine ⟨.bin (U.idxOf c) rid hl d1 d2, .bin _ rid hl d1 d2 hl1 hl2 ?_ ?_,
      .bin c rid hl l r _ d1 d2 (gr_get_idxOf (hall c List.mem_cons_self)) hm1 hm2⟩
    · unfold dstop at hadj ⊢
      rw [ml.start, ml.len, mr.start]
      exact hadj
    · rw [grammarN_bin (fo_match_cat hm1) (fo_match_cat hm2), List.getElem?_map, hr, ← hrc, ← hrh]
      rfl

theorem fo_head_uniform {G : GlueRun.CatGrammar} (hu : HeadUniformG G) (U : List Cat) :
    HeadUniform (grammarN G U) :=
  hu.imp (grammarN_headUniform · U) (grammarN_headUniform · U)

/-- the id a root category got before any parsing is the id every later numbering gives it -/
theorem fo_root_id (G : GlueRun.CatGrammar) (categories roots : List Cat) (hnd : categories.Nodup)
    {U : List Cat} (hp : (GlueRun.init categories roots).cats <+: U) (hgn : U.Nodup)
    {c : Cat} (hc : c ∈ roots) {k : Nat} (hk : U[k]? = some c) :
    k ∈ (addRoots categories roots).2 := by
  obtain ⟨i, hi⟩ := List.getElem?_of_mem hc
  obtain ⟨k', hk', hck'⟩ := (init_inv G categories roots hnd).2.2.2 i c hi
  rw [nodup_getElem?_inj hgn hk (gr_prefix_get hp hck')]
  exact List.mem_of_getElem? hk'

theorem fo_reduce (G : GlueRun.CatGrammar) (categories roots : List Cat) (calls : List Call)
    (cfg : Cfg) (x : SentIn) (hnd : categories.Nodup) (hlex : LexOK categories x) (cd : CDeriv)
    (hcd : CLicensedRoot G categories roots (sentOf (addRoots categories roots).2 x) cfg cd) :
    ∃ (U : List Cat) (d : Deriv),
      (runL G (calls.foldl (GlueRun.step G) (GlueRun.init categories roots))
          (sentOf (addRoots categories roots).2 x) cfg).1
        = run (grammarN G U) (sentOf (addRoots categories roots).2 x) cfg ∧
      LicensedRoot (grammarN G U) (sentOf (addRoots categories roots).2 x) cfg d ∧
      Match U cd d := by
  obtain ⟨hlic, h0, hn, hroot⟩ := hcd
  have hready := ready_of_history G categories roots calls x hnd hlex
  have hpH : (GlueRun.init categories roots).cats <+:
      (calls.foldl (GlueRun.step G) (GlueRun.init categories roots)).cats :=
    (gr_foldl_grows G calls _).1
  generalize calls.foldl (GlueRun.step G) (GlueRun.init categories roots) = gstH at hready hpH ⊢
  generalize hs : sentOf (addRoots categories roots).2 x = s at hready hlic h0 hn ⊢
  -- the final table, extended by the categories of `cd` that it lacks
  have hU := gr_addRoots_nodup (ccats cd) (lz_run_inv pickHeap s cfg hready.inv).nodup
  have hpU := gr_addRoots_prefix (ccats cd) (runLWith pickHeap G gstH s cfg).2.cats
  have hpI := (hpH.trans (lz_run_cats_prefix pickHeap G gstH s cfg)).trans hpU
  obtain ⟨d, hld, hmd⟩ := fo_grammarN G ((gr_addRoots_prefix roots categories).trans hpI) hlic
    fun c hc => (gr_addRoots_mem (ccats cd) (runLWith pickHeap G gstH s cfg).2.cats c).2 (.inr hc)
  have m := fo_match_skel s hmd
  exact ⟨_, d, lz_run_grammarN pickHeap_ok hready.inv hready.lex hU hpU,
    ⟨hld, m.start.trans h0, m.len.trans hn,
      hs ▸ fo_root_id G categories roots hnd hpI hU hroot (fo_match_cat hmd)⟩, hmd⟩

end Depccg.FullOptimal
