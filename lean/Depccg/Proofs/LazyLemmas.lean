/-
  The lazily filled cache (`Depccg.Lazy`) against the search over a total grammar
  (`Depccg.Search`). The lazy functions touch table and cache only through callbacks (`Reach`), so
  rows persist and the table grows (`Grows`) and the glue invariant survives; the id-level view of a
  later cache extends the view of an earlier one wherever that is non-empty (`Sub`). What one
  expansion pushes is what `expand` yields over every grammar that shows the stored rows as the cache
  does (`Agrees`: the views of later caches are such) when all ids are ids of the table, and is
  included in what `expand` yields over the view of a later cache always; a lazy step is `stepPush`
  with that list. A lazy run is
  judged against a cache its final one grows into (`lz_loopL_final`): over that view its items satisfy
  the invariant of the plain search from any start (`lz_stOK_final`), and from a state satisfying the
  glue invariant whose table has every tag column it is the plain search (`lz_run_refines`).
-/
import Depccg.Props.LazyDefs
import Depccg.Props.GlueRun
import Depccg.Proofs.SearchLocalLemmas
import Depccg.Props.C12Glue

namespace Depccg.LazyProps
open Depccg Search SearchProps GlueTree GlueRun Lazy GlueRunProps

def Reach (G : GlueRun.CatGrammar) (a b : GSt) : Prop :=
  ∃ calls : List Call, b = calls.foldl (GlueRun.step G) a

theorem lz_reach_refl (G : GlueRun.CatGrammar) (a : GSt) : Reach G a a := ⟨[], rfl⟩

theorem lz_reach_trans {G : GlueRun.CatGrammar} {a b c : GSt} (h1 : Reach G a b) (h2 : Reach G b c) :
    Reach G a c := by
  obtain ⟨c1, rfl⟩ := h1
  obtain ⟨c2, rfl⟩ := h2
  exact ⟨c1 ++ c2, by rw [List.foldl_append]⟩

theorem lz_reach_un (G : GlueRun.CatGrammar) (a : GSt) (x : Nat) : Reach G a (unCall G a x) :=
  ⟨[.un x], rfl⟩

theorem lz_reach_bin (G : GlueRun.CatGrammar) (a : GSt) (x y : Nat) : Reach G a (binCall G a x y) :=
  ⟨[.bin x y], rfl⟩

theorem lz_reach_grows {G : GlueRun.CatGrammar} {a b : GSt} (h : Reach G a b) : Grows a b := by
  obtain ⟨calls, rfl⟩ := h
  exact gr_foldl_grows G calls a

theorem lz_reach_inv {G : GlueRun.CatGrammar} {a b : GSt} (h : Reach G a b) (hi : Inv' G a) : Inv' G b := by
  obtain ⟨calls, rfl⟩ := h
  exact (gr_run_inv' G calls a hi).1

theorem lz_view_un (gst : GSt) (x : Nat) :
    (view gst).un x = ((unRow gst x).getD []).map (·.catId) := rfl

theorem lz_view_bin (gst : GSt) (x y : Nat) :
    (view gst).bin x y = ((binRow gst x y).getD []).map (fun e => ⟨e.catId, e.headLeft⟩) := rfl

theorem lz_view_un_eq {a b : GSt} (h : Grows a b) {x : Nat} {row : List CacheEntry}
    (hr : unRow a x = some row) : (view b).un x = (view a).un x := by
  rw [lz_view_un, lz_view_un, hr, h.2.2 x row hr]

theorem lz_view_bin_eq {a b : GSt} (h : Grows a b) {x y : Nat} {row : List CacheEntry}
    (hr : binRow a x y = some row) : (view b).bin x y = (view a).bin x y := by
  rw [lz_view_bin, lz_view_bin, hr, h.2.1 x y row hr]

/-- `g` shows every row stored in `a` as `view a` does. The view of every later cache does
    (`Agrees.view`), and so does the grammar that the rule functions determine under any numbering
    extending the table (`agrees_grammarN` in `CompleteCacheLemmas`): a lazy run is the plain search over each of them. -/
def Agrees (a : GSt) (g : Grammar) : Prop :=
  (∀ x row, unRow a x = some row → g.un x = (view a).un x) ∧
  (∀ x y row, binRow a x y = some row → g.bin x y = (view a).bin x y)

theorem Agrees.view {a b : GSt} (h : Grows a b) : Agrees a (view b) :=
  ⟨fun _ _ hr => lz_view_un_eq h hr, fun _ _ _ hr => lz_view_bin_eq h hr⟩

theorem Agrees.of_grows {a b : GSt} {g : Grammar} (h : Grows a b) (hb : Agrees b g) : Agrees a g :=
  ⟨fun x row hr => (hb.1 x row (h.2.2 x row hr)).trans (lz_view_un_eq h hr),
    fun x y row hr => (hb.2 x y row (h.2.1 x y row hr)).trans (lz_view_bin_eq h hr)⟩

-- Less than `Agrees`, which speaks of every stored row. A row read as empty pushes nothing, whether
-- stored empty or not stored at all (an id outside the table), so `lz_expandL_mem` has no hypothesis
-- on the ids; the equation `lz_expandL_eq` has (`LValid` gives it).
def Sub (g g' : Grammar) : Prop :=
  (∀ x, g.un x ≠ [] → g'.un x = g.un x) ∧ (∀ x y, g.bin x y ≠ [] → g'.bin x y = g.bin x y)

theorem lz_sub_refl (g : Grammar) : Sub g g := ⟨fun _ _ => rfl, fun _ _ _ => rfl⟩

theorem lz_sub_of_grows {a b : GSt} (h : Grows a b) : Sub (view a) (view b) :=
  ⟨fun _ hne => lz_view_un_eq h (gr_row_of_ne_nil (mt List.map_eq_nil_iff.2 hne)),
    fun _ _ hne => lz_view_bin_eq h (gr_row_of_ne_nil (mt List.map_eq_nil_iff.2 hne))⟩

theorem lz_unaryItems_sub {g g' : Grammar} (h : Sub g g') {cfg : Cfg} {it x : Item}
    (hx : x ∈ unaryItems g cfg it) : x ∈ unaryItems g' cfg it := by
  have hne : g.un it.cat ≠ [] := by
    obtain ⟨c, rid, hc, -⟩ := mem_unaryItems hx
    intro e
    rw [e] at hc
    cases hc
  rw [loc_unaryItems_congr (h.1 _ hne)]
  exact hx

theorem lz_binaryItems_sub {g g' : Grammar} (h : Sub g g') {s : Sent} {l r x : Item}
    (hx : x ∈ binaryItems g s l r) : x ∈ binaryItems g' s l r := by
  have hne : g.bin l.cat r.cat ≠ [] := by
    obtain ⟨rule, rid, hc, -⟩ := mem_binaryItems hx
    intro e
    rw [e] at hc
    cases hc
  rw [loc_binaryItems_congr (h.2 _ _ hne)]
  exact hx

theorem lz_binL_nil (G : GlueRun.CatGrammar) (s : Sent) (it : Item) (left : Bool) (gst : GSt) :
    binL G s it left gst [] = ([], gst) := rfl

theorem lz_binL_cons (G : GlueRun.CatGrammar) (s : Sent) (it : Item) (left : Bool) (gst : GSt)
    (o : Item) (os : List Item) :
    binL G s it left gst (o :: os) =
      (binaryItems (view (binCall G gst (if left then it else o).cat (if left then o else it).cat)) s
          (if left then it else o) (if left then o else it)
        ++ (binL G s it left (binCall G gst (if left then it else o).cat (if left then o else it).cat) os).1,
       (binL G s it left (binCall G gst (if left then it else o).cat (if left then o else it).cat) os).2) := rfl

theorem lz_binL_reach (G : GlueRun.CatGrammar) (s : Sent) (it : Item) (left : Bool) :
    ∀ (os : List Item) (gst : GSt), Reach G gst (binL G s it left gst os).2 := by
  intro os
  induction os with
  | nil => intro gst; exact lz_reach_refl G gst
  | cons o os ih =>
    intro gst
    rw [lz_binL_cons]
    exact lz_reach_trans (lz_reach_bin G gst _ _) (ih _)

theorem lz_binL_eq (G : GlueRun.CatGrammar) (s : Sent) (it : Item) (left : Bool) :
    ∀ (os : List Item) (gst : GSt) (g : Grammar), it.cat < gst.cats.length →
      (∀ o ∈ os, o.cat < gst.cats.length) → Agrees (binL G s it left gst os).2 g →
      (binL G s it left gst os).1 =
        os.flatMap (fun o => binaryItems g s (if left then it else o) (if left then o else it)) := by
  intro os
  induction os with
  | nil => intro gst g _ _ _; rfl
  | cons o os ih =>
    intro gst g hit hos hg
    rw [lz_binL_cons] at hg ⊢
    have ho : o.cat < gst.cats.length := hos o List.mem_cons_self
    -- both ids are ids of the table, so the request stores a row; the rest of the loop only grows the
    -- cache, and `g` shows the rows of the final cache: `g` shows this row
    have hl : (if left then it else o).cat < gst.cats.length := by cases left <;> simpa
    have hr : (if left then o else it).cat < gst.cats.length := by cases left <;> simpa
    obtain ⟨row, hrow⟩ := gr_binCall_has G gst _ _ hl hr
    have hlen := Grows.length_le
      (gr_binCall_grows G gst (if left then it else o).cat (if left then o else it).cat)
    have hg2 := Agrees.of_grows (lz_reach_grows (lz_binL_reach G s it left os _)) hg
    rw [List.flatMap_cons, loc_binaryItems_congr (hg2.2 _ _ _ hrow), ih _ g (by omega)
      (fun o' ho' => by have := hos o' (List.mem_cons_of_mem _ ho'); omega) hg]

theorem lz_binL_mem (G : GlueRun.CatGrammar) (s : Sent) (it : Item) (left : Bool) :
    ∀ (os : List Item) (gst gF : GSt) (x : Item), Grows (binL G s it left gst os).2 gF →
      x ∈ (binL G s it left gst os).1 →
      ∃ o ∈ os, x ∈ binaryItems (view gF) s (if left then it else o) (if left then o else it) := by
  intro os
  induction os with
  | nil => intro gst gF x _ hx; cases hx
  | cons o os ih =>
    intro gst gF x hg hx
    rw [lz_binL_cons] at hg hx
    rcases List.mem_append.1 hx with hx | hx
    · have hg2 := Grows.trans (lz_reach_grows (lz_binL_reach G s it left os _)) hg
      exact ⟨o, List.mem_cons_self, lz_binaryItems_sub (lz_sub_of_grows hg2) hx⟩
    · obtain ⟨o', ho', h⟩ := ih _ gF x hg hx
      exact ⟨o', List.mem_cons_of_mem _ ho', h⟩

/-- the three stages of `expandL`: unary rules, `it` as left child, `it` as right child, each from
    the table / cache the stage before left -/
def exU (G : GlueRun.CatGrammar) (s : Sent) (cfg : Cfg) (it : Item) (gst : GSt) : List Item × GSt :=
  if s.n = 1 ∨ it.len ≠ s.n then unaryL G cfg gst it else ([], gst)

def exR (G : GlueRun.CatGrammar) (s : Sent) (cfg : Cfg) (chart : List Item) (it : Item) (gst : GSt) :
    List Item × GSt :=
  binL G s it true (exU G s cfg it gst).2 (neighbours chart fun o => o.start == it.stop)

def exL (G : GlueRun.CatGrammar) (s : Sent) (cfg : Cfg) (chart : List Item) (it : Item) (gst : GSt) :
    List Item × GSt :=
  binL G s it false (exR G s cfg chart it gst).2 (neighbours chart fun o => o.stop == it.start)

theorem lz_expandL_def (G : GlueRun.CatGrammar) (s : Sent) (cfg : Cfg) (chart : List Item) (it : Item)
    (gst : GSt) :
    expandL G s cfg chart it gst =
      ((if it.len = s.n ∧ s.roots.elem it.cat then [finItem s it] else []) ++ (exU G s cfg it gst).1
          ++ (exR G s cfg chart it gst).1 ++ (exL G s cfg chart it gst).1,
       (exL G s cfg chart it gst).2) := rfl

theorem lz_exU_reach (G : GlueRun.CatGrammar) (s : Sent) (cfg : Cfg) (it : Item) (gst : GSt) :
    Reach G gst (exU G s cfg it gst).2 := by
  unfold exU
  split
  · exact lz_reach_un G gst it.cat
  · exact lz_reach_refl G gst

theorem lz_exR_reach (G : GlueRun.CatGrammar) (s : Sent) (cfg : Cfg) (chart : List Item) (it : Item)
    (gst : GSt) : Reach G (exU G s cfg it gst).2 (exR G s cfg chart it gst).2 :=
  lz_binL_reach G s it true _ _

theorem lz_exL_reach (G : GlueRun.CatGrammar) (s : Sent) (cfg : Cfg) (chart : List Item) (it : Item)
    (gst : GSt) : Reach G (exR G s cfg chart it gst).2 (exL G s cfg chart it gst).2 :=
  lz_binL_reach G s it false _ _

theorem lz_expandL_reach (G : GlueRun.CatGrammar) (s : Sent) (cfg : Cfg) (chart : List Item) (it : Item)
    (gst : GSt) : Reach G gst (expandL G s cfg chart it gst).2 := by
  rw [lz_expandL_def]
  exact lz_reach_trans (lz_exU_reach G s cfg it gst)
    (lz_reach_trans (lz_exR_reach G s cfg chart it gst) (lz_exL_reach G s cfg chart it gst))

theorem lz_exU_eq (G : GlueRun.CatGrammar) (s : Sent) (cfg : Cfg) (it : Item) (gst : GSt) (g : Grammar)
    (hit : it.cat < gst.cats.length) (hg : Agrees (exU G s cfg it gst).2 g) :
    (exU G s cfg it gst).1 = (if s.n = 1 ∨ it.len ≠ s.n then unaryItems g cfg it else []) := by
  unfold exU at hg ⊢
  split
  · rename_i hc
    rw [if_pos hc] at hg
    obtain ⟨row, hrow⟩ := gr_unCall_has G gst it.cat hit
    exact (loc_unaryItems_congr (hg.1 _ _ hrow)).symm
  · rfl

theorem lz_exU_mem (G : GlueRun.CatGrammar) (s : Sent) (cfg : Cfg) (it x : Item) (gst gF : GSt)
    (hg : Grows (exU G s cfg it gst).2 gF) (hx : x ∈ (exU G s cfg it gst).1) :
    x ∈ if s.n = 1 ∨ it.len ≠ s.n then unaryItems (view gF) cfg it else [] := by
  unfold exU at hg hx
  split
  · rename_i hc
    rw [if_pos hc] at hg hx
    exact lz_unaryItems_sub (lz_sub_of_grows hg) hx
  · rename_i hc
    rw [if_neg hc] at hx
    exact hx

theorem lz_expandL_eq (G : GlueRun.CatGrammar) (s : Sent) (cfg : Cfg) (chart : List Item) (it : Item)
    (gst : GSt) (g : Grammar) (hit : it.cat < gst.cats.length) (hc : ∀ o ∈ chart, o.cat < gst.cats.length)
    (hg : Agrees (expandL G s cfg chart it gst).2 g) :
    (expandL G s cfg chart it gst).1 = expand g s cfg chart it := by
  rw [lz_expandL_def] at hg ⊢
  have gL := lz_reach_grows (lz_exL_reach G s cfg chart it gst)
  have gR := lz_reach_grows (lz_exR_reach G s cfg chart it gst)
  have lU := Grows.length_le (lz_reach_grows (lz_exU_reach G s cfg it gst))
  have lR := Grows.length_le gR
  have hn : ∀ {p : Item → Bool} {n : Nat}, gst.cats.length ≤ n → ∀ o ∈ neighbours chart p, o.cat < n :=
    fun hle o ho => Nat.lt_of_lt_of_le (hc o (mem_neighbours.1 ho).1) hle
  have eU := lz_exU_eq G s cfg it gst g hit (.of_grows gR (.of_grows gL hg))
  have eR := lz_binL_eq G s it true _ (exU G s cfg it gst).2 g (by omega) (hn lU) (.of_grows gL hg)
  have eL := lz_binL_eq G s it false _ (exR G s cfg chart it gst).2 g (by omega) (hn (by omega)) hg
  show _ ++ (exU G s cfg it gst).1 ++ (exR G s cfg chart it gst).1 ++ (exL G s cfg chart it gst).1 = _
  rw [eU, exR, eR, exL, eL]
  rfl

theorem lz_expandL_mem (G : GlueRun.CatGrammar) (s : Sent) (cfg : Cfg) (chart : List Item) (it x : Item)
    (gst gF : GSt) (hg : Grows (expandL G s cfg chart it gst).2 gF)
    (hx : x ∈ (expandL G s cfg chart it gst).1) : x ∈ expand (view gF) s cfg chart it := by
  rw [lz_expandL_def] at hg hx
  have gL := lz_reach_grows (lz_exL_reach G s cfg chart it gst)
  have gR := lz_reach_grows (lz_exR_reach G s cfg chart it gst)
  simp only [expand, List.mem_append, List.mem_flatMap] at hx ⊢
  rcases hx with ((hx | hx) | hx) | hx
  · exact Or.inl (Or.inl (Or.inl hx))
  · exact Or.inl (Or.inl (Or.inr
      (lz_exU_mem G s cfg it x gst gF (Grows.trans gR (Grows.trans gL hg)) hx)))
  · obtain ⟨o, ho, h⟩ := lz_binL_mem G s it true _ _ gF x (Grows.trans gL hg) hx
    exact Or.inl (Or.inr ⟨o, ho, h⟩)
  · obtain ⟨o, ho, h⟩ := lz_binL_mem G s it false _ _ gF x hg hx
    exact Or.inr ⟨o, ho, h⟩

/-- the table / cache after a lazy step, by the cases of `stepPush`: only closing an item calls back -/
def gstAfter (pick : Pick) (G : GlueRun.CatGrammar) (s : Sent) (cfg : Cfg) (ls : LSt) : GSt :=
  match pick.pop ls.st.agenda with
  | none => ls.gst
  | some (it, _) =>
    if it.fin then ls.gst
    else if cfg.nbest ≤ 1 ∧ inChart ls.st.chart it then ls.gst
    else (expandL G s cfg ls.st.chart it ls.gst).2

theorem lz_stepL_eq (pick : Pick) (G : GlueRun.CatGrammar) (s : Sent) (cfg : Cfg) (ls : LSt) :
    stepL pick G s cfg ls =
      (stepPush pick cfg (fun it => (expandL G s cfg ls.st.chart it ls.gst).1) ls.st).map
        fun st' => ⟨st', gstAfter pick G s cfg ls⟩ := by
  unfold stepL stepPush gstAfter
  dsimp only
  -- the guards are rewritten on both sides by hand: `split` on a goal of this size is much slower
  by_cases hlen : cfg.nbest ≤ ls.st.goal.length
  · rw [if_pos hlen, if_pos hlen]
    rfl
  · rw [if_neg hlen, if_neg hlen]
    cases pick.pop ls.st.agenda with
    | none => rfl
    | some p =>
      dsimp only
      by_cases hf : p.1.fin = true
      · rw [if_pos hf, if_pos hf, if_pos hf]
        split <;> rfl
      · rw [if_neg hf, if_neg hf, if_neg hf]
        split <;> rfl

variable {pick : Pick} {G : GlueRun.CatGrammar} {s : Sent} {cfg : Cfg}

theorem gstAfter_closes {ls : LSt} {it : Item} {rest : List Item}
    (hcl : Closes pick cfg ls.st it rest) :
    gstAfter pick G s cfg ls = (expandL G s cfg ls.st.chart it ls.gst).2 := by
  unfold gstAfter
  rw [hcl.pop]
  exact (if_neg (Bool.eq_false_iff.1 hcl.nonfin)).trans (if_neg hcl.fresh)

theorem gstAfter_reach (ls : LSt) : Reach G ls.gst (gstAfter pick G s cfg ls) := by
  unfold gstAfter
  repeat' split
  · exact lz_reach_refl G _
  · exact lz_reach_refl G _
  · exact lz_reach_refl G _
  · exact lz_expandL_reach G s cfg _ _ ls.gst

theorem lz_stepL_gst {ls ls' : LSt} (h : stepL pick G s cfg ls = some ls') :
    ls'.gst = gstAfter pick G s cfg ls := by
  rw [lz_stepL_eq] at h
  obtain ⟨st', -, rfl⟩ := Option.map_eq_some_iff.1 h
  rfl

theorem lz_stepL_st (ls : LSt) :
    (stepL pick G s cfg ls).map (·.st) =
      stepPush pick cfg (fun it => (expandL G s cfg ls.st.chart it ls.gst).1) ls.st := by
  rw [lz_stepL_eq, Option.map_map]
  exact Option.map_id'

theorem lz_stepL_some_st {ls ls' : LSt} (h : stepL pick G s cfg ls = some ls') :
    stepPush pick cfg (fun it => (expandL G s cfg ls.st.chart it ls.gst).1) ls.st = some ls'.st := by
  rw [← lz_stepL_st, h]
  rfl

theorem lz_stepL_none_iff {ls : LSt} :
    stepL pick G s cfg ls = none ↔ cfg.nbest ≤ ls.st.goal.length ∨ pick.pop ls.st.agenda = none := by
  rw [← stepPush_none_iff, ← lz_stepL_st, Option.map_eq_none_iff]

theorem lz_stepL_expand_gst {ls ls' : LSt} (hs : stepL pick G s cfg ls = some ls') {it : Item} {rest : List Item}
    (hcl : Closes pick cfg ls.st it rest) : ls'.gst = (expandL G s cfg ls.st.chart it ls.gst).2 :=
  (lz_stepL_gst hs).trans (gstAfter_closes hcl)

theorem lz_stepL_gst_reach {ls ls' : LSt} (h : stepL pick G s cfg ls = some ls') :
    Reach G ls.gst ls'.gst :=
  lz_stepL_gst h ▸ gstAfter_reach ls

theorem lz_loopL_zero (pick : Pick) (G : GlueRun.CatGrammar) (s : Sent) (cfg : Cfg) (ls : LSt) :
    loopL pick G s cfg 0 ls = ls := rfl

theorem lz_loopL_succ (pick : Pick) (G : GlueRun.CatGrammar) (s : Sent) (cfg : Cfg) (fuel : Nat) (ls : LSt) :
    loopL pick G s cfg (fuel + 1) ls =
      match stepL pick G s cfg ls with
      | none => ls
      | some ls' => loopL pick G s cfg fuel ls' := rfl

theorem lz_loopL_inv (P : LSt → Prop)
    (hstep : ∀ ls ls', P ls → stepL pick G s cfg ls = some ls' → P ls') :
    ∀ (fuel : Nat) (ls : LSt), P ls → P (loopL pick G s cfg fuel ls) :=
  fuelLoop_inv (lz_loopL_zero pick G s cfg) (fun k ls h => by rw [lz_loopL_succ, h])
    (fun k ls ls' h => by rw [lz_loopL_succ, h]) P hstep

theorem lz_loopL_reach (pick : Pick) (G : GlueRun.CatGrammar) (s : Sent) (cfg : Cfg) (fuel : Nat) (ls : LSt) :
    Reach G ls.gst (loopL pick G s cfg fuel ls).gst :=
  lz_loopL_inv (fun ls' => Reach G ls.gst ls'.gst)
    (fun _ _ h hs => lz_reach_trans h (lz_stepL_gst_reach hs)) fuel ls (lz_reach_refl G _)

/-- induction over the lazy loop against a cache `gF` that the final cache grows into: at every step
    the cache the step leaves is known to grow into `gF` -/
theorem lz_loopL_final {gF : GSt} (P : LSt → Prop)
    (hstep : ∀ ls ls', Grows ls'.gst gF → P ls → stepL pick G s cfg ls = some ls' → P ls') :
    ∀ (fuel : Nat) (ls : LSt), Grows (loopL pick G s cfg fuel ls).gst gF → P ls →
      P (loopL pick G s cfg fuel ls) := by
  intro fuel
  induction fuel with
  | zero => intro ls _ h; exact h
  | succ fuel ih =>
    intro ls hg h
    rw [lz_loopL_succ] at hg ⊢
    cases hs : stepL pick G s cfg ls with
    | none => exact h
    | some ls' =>
      rw [hs] at hg
      exact ih ls' hg (hstep ls ls' (.trans (lz_reach_grows (lz_loopL_reach pick G s cfg fuel ls')) hg) h hs)

theorem lz_inv_un_valid {G : GlueRun.CatGrammar} {gst : GSt} (h : Inv' G gst) {x rid c : Nat}
    (hc : ((view gst).un x)[rid]? = some c) : c < gst.cats.length := by
  obtain ⟨e, he, rfl⟩ := List.mem_map.1
    (show c ∈ ((unRow gst x).getD []).map (·.catId) from List.mem_of_getElem? hc)
  obtain ⟨_, -, hok⟩ := (inv'_iff_cacheOK.1 h).un (gr_row_of_mem he)
  exact hok.catId_lt he

theorem lz_inv_bin_valid {G : GlueRun.CatGrammar} {gst : GSt} (h : Inv' G gst) {x y rid : Nat}
    {r : Search.Rule} (hc : ((view gst).bin x y)[rid]? = some r) : r.cat < gst.cats.length := by
  obtain ⟨e, he, rfl⟩ := List.mem_map.1
    (show r ∈ ((binRow gst x y).getD []).map (fun e => (⟨e.catId, e.headLeft⟩ : Search.Rule)) from
      List.mem_of_getElem? hc)
  obtain ⟨_, _, -, -, hok⟩ :=
    (inv'_iff_cacheOK.1 h).bin (gr_row_of_mem he)
  exact hok.catId_lt he

theorem lz_expand_valid {G : GlueRun.CatGrammar} {gst : GSt} (h : Inv' G gst) {s : Sent} {cfg : Cfg}
    {chart : List Item} {it x : Item} (hit : it.cat < gst.cats.length)
    (hx : x ∈ expand (view gst) s cfg chart it) : x.cat < gst.cats.length := by
  rcases mem_expand.1 hx with ⟨-, -, rfl⟩ | ⟨-, hx⟩ | ⟨o, -, -, hx⟩ | ⟨o, -, -, hx⟩
  · exact hit
  · obtain ⟨c, rid, hr, rfl⟩ := mem_unaryItems hx
    exact lz_inv_un_valid h hr
  · obtain ⟨rule, rid, hr, rfl⟩ := mem_binaryItems hx
    exact lz_inv_bin_valid h hr
  · obtain ⟨rule, rid, hr, rfl⟩ := mem_binaryItems hx
    exact lz_inv_bin_valid h hr

/-- every id on the agenda and in the chart is an id of the table: the next step makes no callback
    for an unknown id (the case in which `binCall` / `unCall` do nothing), which is what separates
    the lazy run from the plain search -/
def LValid (G : GlueRun.CatGrammar) (ls : LSt) : Prop :=
  Inv' G ls.gst ∧ (∀ it ∈ ls.st.agenda, it.cat < ls.gst.cats.length) ∧
    (∀ it ∈ ls.st.chart, it.cat < ls.gst.cats.length)

theorem lz_step_valid {ls ls' : LSt}
    (hp : PickOK pick) (h : LValid G ls) (hs : stepL pick G s cfg ls = some ls') : LValid G ls' := by
  obtain ⟨hinv, hag, hch⟩ := h
  have hre := lz_stepL_gst_reach hs
  have hinv' := lz_reach_inv hre hinv
  have hlen := Grows.length_le (lz_reach_grows hre)
  have hag' : ∀ x ∈ ls.st.agenda, x.cat < ls'.gst.cats.length :=
    fun x hx => Nat.lt_of_lt_of_le (hag x hx) hlen
  -- what the step pushes is `expand` over the view of the cache it leaves, and `Inv'` bounds every id
  -- of a row by the length of the table
  obtain ⟨ha, hc, -⟩ := stepPush_forall hp (lz_stepL_some_st hs) hag'
    (fun o ho => Nat.lt_of_lt_of_le (hch o ho) hlen) fun it rest hcl x hx => by
      have hit := hp.mem_of_pop hcl.pop
      rw [lz_expandL_eq G s cfg _ it ls.gst (view ls'.gst) (hag it hit) hch
        (lz_stepL_expand_gst hs hcl ▸ Agrees.view (Grows.refl _))] at hx
      exact lz_expand_valid hinv' (hag' it hit) hx
  exact ⟨hinv', ha, hc⟩

theorem lz_stepL_stepWith {ls ls' : LSt}
    (hp : PickOK pick) (h : LValid G ls) (hs : stepL pick G s cfg ls = some ls') {g : Grammar}
    (hg : Agrees ls'.gst g) : stepWith pick g s cfg ls.st = some ls'.st := by
  rw [stepWith_eq, ← lz_stepL_some_st hs]
  refine (stepPush_congr fun it rest hcl => ?_).symm
  refine lz_expandL_eq G s cfg _ it ls.gst g (h.2.1 it (hp.mem_of_pop hcl.pop)) h.2.2 ?_
  rw [← lz_stepL_expand_gst hs hcl]
  exact hg

theorem lz_loopL_eq (hp : PickOK pick) :
    ∀ (fuel : Nat) (ls : LSt) (g : Grammar), LValid G ls → Agrees (loopL pick G s cfg fuel ls).gst g →
      loop pick g s cfg fuel ls.st = (loopL pick G s cfg fuel ls).st := by
  intro fuel
  induction fuel with
  | zero => intro ls g _ _; rfl
  | succ fuel ih =>
    intro ls g hv hg
    rw [lz_loopL_succ] at hg ⊢
    show (match stepWith pick g s cfg ls.st with
      | none => ls.st
      | some st' => loop pick g s cfg fuel st') = _
    cases hs : stepL pick G s cfg ls with
    | none =>
      rw [stepWith_none_iff.2 (lz_stepL_none_iff.1 hs)]
    | some ls' =>
      rw [hs] at hg
      have hg' : Agrees ls'.gst g := .of_grows (lz_reach_grows (lz_loopL_reach pick G s cfg fuel ls')) hg
      rw [lz_stepL_stepWith hp hv hs hg']
      exact ih ls' g (lz_step_valid hp hv hs) hg

theorem lz_runLWith_snd (pick : Pick) (G : GlueRun.CatGrammar) (gst : GSt) (s : Sent) (cfg : Cfg) :
    (runLWith pick G gst s cfg).2 = (loopL pick G s cfg cfg.maxStep ⟨init pick s cfg, gst⟩).gst := rfl

theorem lz_runLWith_fst (pick : Pick) (G : GlueRun.CatGrammar) (gst : GSt) (s : Sent) (cfg : Cfg) :
    (runLWith pick G gst s cfg).1 =
      { results := sortDesc (loopL pick G s cfg cfg.maxStep ⟨init pick s cfg, gst⟩).st.goal,
        popped := (loopL pick G s cfg cfg.maxStep ⟨init pick s cfg, gst⟩).st.popped.reverse,
        steps := (loopL pick G s cfg cfg.maxStep ⟨init pick s cfg, gst⟩).st.steps,
        tie := (loopL pick G s cfg cfg.maxStep ⟨init pick s cfg, gst⟩).st.tie } := rfl

theorem lz_run_reach (pick : Pick) (G : GlueRun.CatGrammar) (gst : GSt) (s : Sent) (cfg : Cfg) :
    Reach G gst (runLWith pick G gst s cfg).2 :=
  lz_loopL_reach pick G s cfg cfg.maxStep ⟨init pick s cfg, gst⟩

theorem lz_run_inv (pick : Pick) {G : GlueRun.CatGrammar} {gst : GSt} (s : Sent) (cfg : Cfg)
    (hinv : Inv' G gst) : Inv' G (runLWith pick G gst s cfg).2 :=
  lz_reach_inv (lz_run_reach pick G gst s cfg) hinv

theorem lz_run_cats_prefix (pick : Pick) (G : GlueRun.CatGrammar) (gst : GSt) (s : Sent) (cfg : Cfg) :
    gst.cats <+: (runLWith pick G gst s cfg).2.cats :=
  (lz_reach_grows (lz_run_reach pick G gst s cfg)).1

theorem lz_tags_mono {tags : List (List Int)} {l l' : List Cat}
    (h : ∀ row ∈ tags, row.length ≤ l.length) (hp : l <+: l') : ∀ row ∈ tags, row.length ≤ l'.length :=
  fun row hr => Nat.le_trans (h row hr) hp.length_le

theorem lz_init_valid {pick : Pick} {G : GlueRun.CatGrammar} {gst : GSt} {s : Sent} (cfg : Cfg)
    (hp : PickOK pick) (hinv : Inv' G gst) (htags : ∀ row ∈ s.tags, row.length ≤ gst.cats.length) :
    LValid G ⟨init pick s cfg, gst⟩ := by
  refine ⟨hinv, fun it hit => ?_, fun it h => by cases h⟩
  obtain ⟨tok, c, _, hc, rfl⟩ := mem_leafItems (hp.mem_push_nil.1 hit)
  exact admitted_col_lt hc htags

theorem lz_run_refines {pick : Pick} {G : GlueRun.CatGrammar} {gst : GSt} {s : Sent} {cfg : Cfg}
    (hp : PickOK pick) (hinv : Inv' G gst) (htags : ∀ row ∈ s.tags, row.length ≤ gst.cats.length)
    {g : Grammar} (hg : Agrees (runLWith pick G gst s cfg).2 g) :
    (runLWith pick G gst s cfg).1 = runWith pick g s cfg := by
  rw [lz_runLWith_fst]
  unfold runWith
  rw [lz_loopL_eq hp cfg.maxStep ⟨init pick s cfg, gst⟩ g (lz_init_valid cfg hp hinv htags) hg]

theorem lz_run_eq {pick : Pick} {G : GlueRun.CatGrammar} {gst : GSt} {s : Sent} {cfg : Cfg}
    (hp : PickOK pick) (hinv : Inv' G gst) (htags : ∀ row ∈ s.tags, row.length ≤ gst.cats.length) :
    (runLWith pick G gst s cfg).1 = runWith pick (view (runLWith pick G gst s cfg).2) s cfg :=
  lz_run_refines hp hinv htags (.view (Grows.refl _))

theorem sameOutcome_iff {a b : Outcome} : SameOutcome a b ↔ a = b := by
  cases a
  cases b
  simp only [SameOutcome, Outcome.mk.injEq]

/-- the items of a lazy run are those of the plain search over the view of its final cache, and of
    every later one: what closing an item pushes is among what `expand` yields over that view -/
theorem lz_stOK_final {pick : Pick} (hp : PickOK pick) (G : GlueRun.CatGrammar) (gst : GSt) (s : Sent)
    (cfg : Cfg) {gF : GSt} (hg : Grows (runLWith pick G gst s cfg).2 gF) :
    StOK (view gF) s cfg (loopL pick G s cfg cfg.maxStep ⟨init pick s cfg, gst⟩).st :=
  lz_loopL_final (fun ls => StOK (view gF) s cfg ls.st)
    (fun ls _ hg' h hs => h.stepPush hp (fun it _ hcl x hx =>
      lz_expandL_mem G s cfg ls.st.chart it x ls.gst gF (lz_stepL_expand_gst hs hcl ▸ hg') hx)
      (lz_stepL_some_st hs))
    cfg.maxStep ⟨init pick s cfg, gst⟩ hg (StOK.init hp (view gF) s cfg)

/-- C02 for the lazy run: every returned item carries a complete parse licensed by the view of the
    final cache (no hypothesis on the ids) -/
theorem lz_results_valid {pick : Pick} (hp : PickOK pick) (G : GlueRun.CatGrammar) (gst : GSt) (s : Sent)
    (cfg : Cfg) : ∀ r ∈ (runLWith pick G gst s cfg).1.results,
      LicensedRoot (view (runLWith pick G gst s cfg).2) s cfg r.d ∧ leafToks r.d = List.range s.n ∧
        r.cat = dcat r.d ∧ r.fin = true := by
  intro r hr
  rw [lz_runLWith_fst] at hr
  obtain ⟨hf, hok⟩ := (lz_stOK_final hp G gst s cfg (Grows.refl _)).goal r (sortDesc_perm.mem_iff.1 hr)
  exact ⟨hok.lic, hok.lic.leafToks_eq, hok.cat, hf⟩

theorem lz_licensed_covered {G : GlueRun.CatGrammar} {gF : GSt} {s : Sent} {cfg : Cfg} {tokens : List Token}
    (hinv : Inv' G gF) (hlen : tokens.length = s.n)
    (htags : ∀ row ∈ s.tags, row.length ≤ gF.cats.length) {d : Deriv}
    (hl : Licensed (view gF) s cfg d) : C12.Covered (tablesOf gF) tokens d := by
  induction hl with
  | leaf t c sc ht hadm => exact ⟨(isSome_getElem? gF.cats c).mpr (admitted_col_lt hadm htags), hlen ▸ ht⟩
  | un c rid d _ hrule _ ih =>
    exact ⟨(isSome_getElem? gF.cats c).mpr (lz_inv_un_valid hinv hrule), ih⟩
  | bin c rid hl l r _ _ _ hrule ihl ihr =>
    exact ⟨(isSome_getElem? gF.cats c).mpr (lz_inv_bin_valid hinv hrule),
      ihl, ihr⟩

end Depccg.LazyProps
