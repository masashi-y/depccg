/-
  Lemmas for C05 (category text / value round trip): the tokenizer on spelled and on printed text;
  the reader's loop as a relation `Step` on stack and buffer (what one iteration does when it does
  not raise: sound for every outcome, complete for the successful ones; the successful calls of
  `atomStep`, `closeStep`, `finish` are characterised once, `atomStep_ok`, `closeStep_ok`,
  `finish_ok`, the loop is unfolded in `readLoop_fuel` and `run_cons` only, and the one failing call
  a theorem needs is `closeStep_flat`); the reader on operands and expressions; and
  the round trip on `ProgramProps.ReadWF`, the values the reader returns, of which `WF` is a part.
-/
import Depccg.Props.ReadWFDefs
import Depccg.Proofs.StrLemmas

namespace Depccg.C05
open Depccg Cat Str

theorem isSpecial_iff (c : Nat) :
    Cat.isSpecial c = true ↔
      (c = 91 ∨ c = 93 ∨ c = 40 ∨ c = 41 ∨ c = 47 ∨ c = 92 ∨ c = 124 ∨ c = 60 ∨ c = 62) := by
  simp [Cat.isSpecial, cLBr, cRBr, cLPar, cRPar, cSlash, cBSlash, cBar, cLt, cGt, or_assoc]

theorem plainChar_iff (c : Nat) :
    plainChar c = true ↔ (Cat.isSpecial c = false ∧ c ≠ 32) := by
  simp [plainChar, cSpace]

theorem plainChar_false_iff (c : Nat) :
    plainChar c = false ↔ (Cat.isSpecial c = true ∨ c = 32) := by
  cases h : Cat.isSpecial c <;> simp [plainChar, cSpace, h]

theorem isSpecial_ne_space {c : Nat} (h : Cat.isSpecial c = true) : c ≠ 32 := by
  rw [isSpecial_iff] at h; omega

theorem special_LBr : Cat.isSpecial cLBr = true := by decide
theorem special_RBr : Cat.isSpecial cRBr = true := by decide
theorem special_LPar : Cat.isSpecial cLPar = true := by decide
theorem special_RPar : Cat.isSpecial cRPar = true := by decide

theorem slash_cases {P : Nat → Prop} (h1 : P cSlash) (h2 : P cBSlash) (h3 : P cBar) {s : Nat}
    (h : Cat.isSlashCode s = true) : P s := by
  simp only [Cat.isSlashCode, Bool.or_eq_true, beq_iff_eq] at h
  rcases h with (rfl | rfl) | rfl <;> assumption

theorem special_of_slash {s : Nat} (h : Cat.isSlashCode s = true) : Cat.isSpecial s = true :=
  slash_cases (P := fun s => Cat.isSpecial s = true) (by decide) (by decide) (by decide) h

/-- the rest of the text does not continue a plain token: `Str.Stops plainChar rest`, in the shape of
    the side condition of `Spells.plain`, so that `tokenize_of_spells` passes that hypothesis on as it is -/
def Stop (rest : Str) : Prop := rest = [] ∨ ∃ c r, rest = c :: r ∧ plainChar c = false

theorem Stop.nil : Stop [] := Or.inl rfl

theorem Stop.special {c : Nat} (r : Str) (h : Cat.isSpecial c = true) : Stop (c :: r) :=
  Or.inr ⟨c, r, rfl, (plainChar_false_iff c).2 (Or.inl h)⟩

theorem tokAux_nil (acc : Str) :
    tokenizeAux acc [] = if acc.isEmpty then [] else [acc.reverse] := by
  simp [tokenizeAux]

theorem tokAux_space (acc cs : Str) :
    tokenizeAux acc (32 :: cs) =
      if acc.isEmpty then tokenizeAux [] cs else acc.reverse :: tokenizeAux [] cs := by
  simp [tokenizeAux, cSpace]

theorem tokAux_special {acc cs : Str} {c : Nat} (h : Cat.isSpecial c = true) :
    tokenizeAux acc (c :: cs) =
      if acc.isEmpty then [c] :: tokenizeAux [] cs
      else acc.reverse :: [c] :: tokenizeAux [] cs := by
  have := isSpecial_ne_space h
  simp [tokenizeAux, cSpace, h, this]

theorem tokAux_plainChar {acc cs : Str} {c : Nat} (h : plainChar c = true) :
    tokenizeAux acc (c :: cs) = tokenizeAux (c :: acc) cs := by
  rw [plainChar_iff] at h
  simp [tokenizeAux, cSpace, h.1, h.2]

theorem tokAux_plain (t : Str) (ht : ∀ c ∈ t, plainChar c = true) (acc rest : Str) :
    tokenizeAux acc (t ++ rest) = tokenizeAux (t.reverse ++ acc) rest := by
  induction t generalizing acc with
  | nil => rfl
  | cons c t ih =>
    rw [List.cons_append, tokAux_plainChar (ht c List.mem_cons_self),
      ih fun c hc => ht c (List.mem_cons_of_mem _ hc), List.reverse_cons, List.append_assoc]
    rfl

theorem tokAux_flush (acc rest : Str) (hacc : acc ≠ []) (hs : Stop rest) :
    tokenizeAux acc rest = acc.reverse :: tokenizeAux [] rest := by
  have hne : acc.isEmpty = false := by cases acc <;> simp_all
  rcases hs with rfl | ⟨c, r, rfl, hc⟩
  · simp [tokAux_nil, hne]
  · rw [plainChar_false_iff] at hc
    rcases hc with hc | rfl
    · rw [tokAux_special hc, tokAux_special hc]; simp [hne]
    · rw [tokAux_space, tokAux_space]; simp [hne]

theorem tokenize_plain (t rest : Str) (ht : PlainTok t) (hs : Stop rest) :
    tokenize (t ++ rest) = t :: tokenize rest := by
  unfold tokenize
  rw [tokAux_plain t ht.2, tokAux_flush _ _ (by simpa using ht.1) hs]
  simp

theorem tokenize_special {c : Nat} {rest : Str} (h : Cat.isSpecial c = true) :
    tokenize (c :: rest) = [c] :: tokenize rest := by
  unfold tokenize
  rw [tokAux_special h]; rfl

theorem tokenize_spaces (k : Nat) (rest : Str) :
    tokenize (List.replicate k cSpace ++ rest) = tokenize rest := by
  unfold tokenize
  induction k with
  | zero => rfl
  | succ k ih =>
    rw [List.replicate_succ, List.cons_append]
    show tokenizeAux [] (32 :: _) = _
    rw [tokAux_space]; exact ih

theorem tokenize_nil : tokenize [] = [] := rfl

theorem tokenizeAux_spec (s : Str) : ∀ (acc : Str), (∀ c ∈ acc, plainChar c = true) →
    ∀ t ∈ tokenizeAux acc s,
      ProgramProps.Tok t ∧ ∀ x ∈ t, x ∈ acc ∨ x ∈ s := by
  -- where the text does not continue a plain token, `acc` is put out and reading starts afresh
  have stop : ∀ {acc s t}, (∀ c ∈ acc, plainChar c = true) → Stop s → t ∈ tokenizeAux acc s →
      (PlainTok t ∧ ∀ x ∈ t, x ∈ acc) ∨ t ∈ tokenize s := by
    intro acc s t hacc hs ht
    by_cases hne : acc = []
    · subst hne
      exact .inr ht
    · rw [tokAux_flush _ _ hne hs] at ht
      refine (List.mem_cons.1 ht).imp (fun e => ?_) id
      subst e
      exact ⟨⟨by simpa using hne, fun c hc => hacc c (List.mem_reverse.1 hc)⟩,
        fun x hx => List.mem_reverse.1 hx⟩
  induction s with
  | nil =>
    intro acc hacc t ht
    rcases stop hacc Stop.nil ht with ⟨h1, h2⟩ | ht
    · exact ⟨.inl h1, fun x hx => .inl (h2 x hx)⟩
    · cases ht
  | cons c cs ih =>
    intro acc hacc t ht
    have rest : t ∈ tokenize cs → _ ∧ ∀ x ∈ t, x ∈ acc ∨ x ∈ c :: cs := fun ht =>
      have h := ih [] nofun t ht
      ⟨h.1, fun x hx => .inr (List.mem_cons_of_mem _ ((h.2 x hx).resolve_left nofun))⟩
    cases hp : plainChar c with
    | true =>
      rw [tokAux_plainChar hp] at ht
      obtain ⟨h1, h2⟩ := ih (c :: acc) (List.forall_mem_cons.2 ⟨hp, hacc⟩) t ht
      refine ⟨h1, fun x hx => (h2 x hx).elim (fun h => ?_) fun h => .inr (List.mem_cons_of_mem _ h)⟩
      exact (List.mem_cons.1 h).elim (fun e => .inr (e ▸ List.mem_cons_self)) .inl
    | false =>
      rcases stop hacc (.inr ⟨c, cs, rfl, hp⟩) ht with ⟨h1, h2⟩ | ht
      · exact ⟨.inl h1, fun x hx => .inl (h2 x hx)⟩
      rcases (plainChar_false_iff c).1 hp with hs | rfl
      · rw [tokenize_special hs] at ht
        rcases List.mem_cons.1 ht with rfl | ht
        · exact ⟨.inr ⟨c, hs, rfl⟩, fun x hx => .inr (List.mem_singleton.1 hx ▸ List.mem_cons_self)⟩
        · exact rest ht
      · exact rest (tokenize_spaces 1 cs ▸ ht)

theorem tokenize_of_spells {ts : List Str} {text : Str} (h : Spells ts text) :
    tokenize text = ts := by
  induction h with
  | nil k => simpa [tokenize_nil] using tokenize_spaces k []
  | special k c ts rest hc _ ih =>
    rw [tokenize_spaces, tokenize_special hc, ih]
  | plain k t ts rest ht hs _ ih =>
    rw [List.append_assoc, tokenize_spaces, tokenize_plain t rest ht hs, ih]

theorem TriPart.noComma {s : Str} (h : TriPart s) : cComma ∉ s := fun hm => (h _ hm).2.2 rfl
theorem TriPart.noEq {s : Str} (h : TriPart s) : cEq ∉ s := fun hm => (h _ hm).2.1 rfl
theorem TriPart.plain {s : Str} (h : TriPart s) : ∀ c ∈ s, plainChar c = true :=
  fun c hm => (h c hm).1

theorem kv_noComma {k v : Str} (hk : TriPart k) (hv : TriPart v) : cComma ∉ k ++ cEq :: v := by
  simp only [List.mem_append, List.mem_cons, not_or]
  exact ⟨hk.noComma, by decide, hv.noComma⟩

theorem splitOn_kv {k v : Str} (hk : TriPart k) (hv : TriPart v) :
    splitOn cEq (k ++ cEq :: v) = [k, v] := by
  rw [splitOn_sep _ hk.noEq, splitOn_of_notMem _ hv.noEq]

theorem triStr_eq (k1 v1 k2 v2 k3 v3 : Str) :
    (Feat.tri k1 v1 k2 v2 k3 v3).str =
      (k1 ++ cEq :: v1) ++ cComma :: ((k2 ++ cEq :: v2) ++ cComma :: (k3 ++ cEq :: v3)) := by
  simp [Feat.str]

theorem feat_parse_ok {t : Str} {f : Feat} (h : Feat.parse t = .ok f) :
    (f = .un (some t) ∧ ¬ (hasChar cEq t = true ∧ hasChar cComma t = true)) ∨
    (hasChar cEq t = true ∧ ∃ k1 v1 k2 v2 k3 v3, f = .tri k1 v1 k2 v2 k3 v3 ∧
      ∀ p ∈ [k1, v1, k2, v2, k3, v3], ∀ x ∈ p, x ∈ t ∧ x ≠ cEq ∧ x ≠ cComma) := by
  unfold Feat.parse at h
  split at h
  · rename_i hc
    split at h
    · rename_i a b c hsplit
      have part : ∀ q ∈ [a, b, c], ∀ p ∈ splitOn cEq q, ∀ x ∈ p, x ∈ t ∧ x ≠ cEq ∧ x ≠ cComma := by
        intro q hq p hp x hx
        obtain ⟨hxq, hxe⟩ := mem_of_mem_splitOn hp x hx
        obtain ⟨hxt, hxc⟩ := mem_of_mem_splitOn (hsplit.symm ▸ hq : q ∈ splitOn cComma t) x hxq
        exact ⟨hxt, hxe, hxc⟩
      split at h
      · rename_i k1 v1 k2 v2 k3 v3 h1 h2 h3
        cases h
        refine Or.inr ⟨(Bool.and_eq_true _ _ ▸ hc).1, k1, v1, k2, v2, k3, v3, rfl, ?_⟩
        simp only [List.forall_mem_cons, List.not_mem_nil, false_imp_iff, implies_true, and_true]
        exact ⟨part a (by simp) k1 (by simp [h1]), part a (by simp) v1 (by simp [h1]),
          part b (by simp) k2 (by simp [h2]), part b (by simp) v2 (by simp [h2]),
          part c (by simp) k3 (by simp [h3]), part c (by simp) v3 (by simp [h3])⟩
      · cases h
    · cases h
  · rename_i hc
    cases h
    exact Or.inl ⟨rfl, fun hh => hc (by simp [hh.1, hh.2])⟩

theorem Feat.parse_un {v : Str} (h : ¬ (hasChar cEq v = true ∧ hasChar cComma v = true)) :
    Feat.parse v = .ok (.un (some v)) := by
  unfold Feat.parse
  rw [if_neg]
  simpa using h

theorem Feat.parse_tri {k1 v1 k2 v2 k3 v3 : Str} (hk1 : TriPart k1) (hv1 : TriPart v1)
    (hk2 : TriPart k2) (hv2 : TriPart v2) (hk3 : TriPart k3) (hv3 : TriPart v3) :
    Feat.parse (Feat.tri k1 v1 k2 v2 k3 v3).str = .ok (.tri k1 v1 k2 v2 k3 v3) := by
  rw [triStr_eq]
  unfold Feat.parse
  rw [if_pos (by simp [hasChar]), splitOn_sep _ (kv_noComma hk1 hv1),
    splitOn_sep _ (kv_noComma hk2 hv2), splitOn_of_notMem _ (kv_noComma hk3 hv3)]
  simp only [splitOn_kv, hk1, hv1, hk2, hv2, hk3, hv3]

theorem Feat.str_plainTok (f : Feat) (hf : WFFeat f) (hne : f ≠ .un none) : PlainTok f.str := by
  cases f with
  | un v =>
    cases v with
    | none => exact absurd rfl hne
    | some v => exact hf.1
  | tri k1 v1 k2 v2 k3 v3 =>
    obtain ⟨hk1, hv1, hk2, hv2, hk3, hv3⟩ := hf
    have hEq : plainChar cEq = true := by decide
    have hComma : plainChar cComma = true := by decide
    rw [triStr_eq]
    refine ⟨by simp, ?_⟩
    simp only [List.forall_mem_append, List.forall_mem_cons]
    exact ⟨⟨hk1.plain, hEq, hv1.plain⟩, hComma, ⟨hk2.plain, hEq, hv2.plain⟩, hComma, hk3.plain,
      hEq, hv3.plain⟩

theorem Feat.str_length_eq_zero (f : Feat) (hf : ∀ v, f = .un (some v) → v ≠ []) :
    (f.str.length == 0) = true ↔ f = .un none := by
  cases f with
  | un v =>
    cases v with
    | none => simp [Feat.str]
    | some v => simp [Feat.str, hf v rfl]
  | tri k1 v1 k2 v2 k3 v3 => simp [Feat.str]

theorem WFFeat.un_ne_nil {f : Feat} (hf : WFFeat f) : ∀ v, f = .un (some v) → v ≠ [] := by
  rintro v rfl
  exact hf.1.1

end Depccg.C05

namespace Depccg.ProgramProps
open Depccg Cat Str C05

theorem pp_tok_special {c : Nat} (h : Cat.isSpecial c = true) : Tok [c] := Or.inr ⟨c, h, rfl⟩

theorem pp_tok_ne_nil {t : Str} (h : Tok t) : t ≠ [] := by
  rcases h with h | ⟨c, -, rfl⟩
  · exact h.1
  · simp

theorem pp_readName_tok {b : Str} (h : ReadName b) : Tok b := by
  rcases h with h | rfl | rfl
  · exact Or.inl h
  · exact pp_tok_special special_LBr
  · exact pp_tok_special special_RBr

theorem pp_wfFeat_readFeat {f : Feat} (h : WFFeat f) : ReadFeat f := by
  cases f with
  | un v =>
    cases v with
    | none => trivial
    | some v => exact ⟨Or.inl h.1, h.2⟩
  | tri k1 v1 k2 v2 k3 v3 => exact h

theorem pp_wf_readWF {c : Cat} (h : WF c) : ReadWF c := by
  induction c with
  | atom b f => exact ⟨Or.inl h.1, pp_wfFeat_readFeat h.2.1, h.2.2⟩
  | fn l s r ihl ihr => exact ⟨ihl h.1, h.2.1, ihr h.2.2⟩

theorem pp_feat_str_tok (f : Feat) (hf : ReadFeat f) (hne : f ≠ .un none) : Tok f.str := by
  cases f with
  | un v =>
    cases v with
    | none => exact absurd rfl hne
    | some v => exact hf.1
  | tri k1 v1 k2 v2 k3 v3 =>
    exact Or.inl (Feat.str_plainTok (.tri k1 v1 k2 v2 k3 v3) hf hne)

theorem pp_feat_parse_str (f : Feat) (hf : ReadFeat f) (hne : f ≠ .un none) :
    Feat.parse f.str = .ok f := by
  cases f with
  | un v =>
    cases v with
    | none => exact absurd rfl hne
    | some v => exact Feat.parse_un hf.2
  | tri k1 v1 k2 v2 k3 v3 => exact Feat.parse_tri hf.1 hf.2.1 hf.2.2.1 hf.2.2.2.1 hf.2.2.2.2.1 hf.2.2.2.2.2

theorem pp_feat_str_length (f : Feat) (hf : ReadFeat f) :
    (f.str.length == 0) = true ↔ f = .un none :=
  Feat.str_length_eq_zero f fun v e => pp_tok_ne_nil (e ▸ hf : ReadFeat (.un (some v))).1

end Depccg.ProgramProps

namespace Depccg.C05
open Depccg Cat Str ProgramProps

theorem tokenize_tok {t : Str} (ht : Tok t) (rest : Str) (hs : Stop rest) :
    tokenize (t ++ rest) = t :: tokenize rest := by
  rcases ht with ht | ⟨c, hc, rfl⟩
  · exact tokenize_plain t rest ht hs
  · exact tokenize_special hc

/-- the printed text of an operand of a functor -/
def wrapS (c : Cat) : Str := if c.isFunctor then cLPar :: c.str ++ [cRPar] else c.str

theorem str_fn (l r : Cat) (s : Nat) : (Cat.fn l s r).str = wrapS l ++ s :: wrapS r := rfl

theorem str_atom (b : Str) (f : Feat) :
    (Cat.atom b f).str = if f.str.length == 0 then b else b ++ cLBr :: f.str ++ [cRBr] := rfl

def toks : Cat → List Str
  | .atom b f => if f.str.length == 0 then [b] else [b, [cLBr], f.str, [cRBr]]
  | .fn l s r =>
    (if l.isFunctor then [cLPar] :: toks l ++ [[cRPar]] else toks l) ++
      [s] :: (if r.isFunctor then [cLPar] :: toks r ++ [[cRPar]] else toks r)

def wrapT (c : Cat) : List Str := if c.isFunctor then [cLPar] :: toks c ++ [[cRPar]] else toks c

theorem toks_fn (l r : Cat) (s : Nat) : toks (.fn l s r) = wrapT l ++ [s] :: wrapT r := rfl

theorem tokenize_atom (b : Str) (f : Feat) (hc : ReadWF (.atom b f)) (rest : Str) (hs : Stop rest) :
    tokenize ((Cat.atom b f).str ++ rest) = toks (.atom b f) ++ tokenize rest := by
  rw [str_atom, toks]
  have hb := tokenize_tok (pp_readName_tok hc.1)
  by_cases h0 : (f.str.length == 0) = true
  · rw [if_pos h0, if_pos h0, hb rest hs]; rfl
  · have e : b ++ cLBr :: f.str ++ [cRBr] ++ rest = b ++ (cLBr :: (f.str ++ (cRBr :: rest))) := by
      simp
    have hf := pp_feat_str_tok f hc.2.1 fun e => h0 ((pp_feat_str_length f hc.2.1).2 e)
    rw [if_neg h0, if_neg h0, e, hb _ (Stop.special _ special_LBr), tokenize_special special_LBr,
      tokenize_tok hf _ (Stop.special _ special_RBr), tokenize_special special_RBr]
    rfl

theorem tokenize_wrapS (c : Cat)
    (ih : ∀ rest, Stop rest → tokenize (c.str ++ rest) = toks c ++ tokenize rest) (rest : Str)
    (hs : Stop rest) : tokenize (wrapS c ++ rest) = wrapT c ++ tokenize rest := by
  unfold wrapS wrapT
  by_cases hfun : c.isFunctor = true
  · have e : cLPar :: c.str ++ [cRPar] ++ rest = cLPar :: (c.str ++ (cRPar :: rest)) := by simp
    rw [if_pos hfun, if_pos hfun, e, tokenize_special special_LPar,
      ih _ (Stop.special _ special_RPar), tokenize_special special_RPar]
    simp
  · rw [if_neg hfun, if_neg hfun]; exact ih rest hs

theorem tokenize_str_append (c : Cat) (hc : ReadWF c) (rest : Str) (hs : Stop rest) :
    tokenize (c.str ++ rest) = toks c ++ tokenize rest := by
  induction c generalizing rest with
  | atom b f => exact tokenize_atom b f hc rest hs
  | fn l s r ihl ihr =>
    obtain ⟨hl, hsl, hr⟩ := hc
    have hsp := special_of_slash hsl
    have e : wrapS l ++ s :: wrapS r ++ rest = wrapS l ++ (s :: (wrapS r ++ rest)) := by simp
    rw [str_fn, toks_fn, e, tokenize_wrapS l (ihl hl) _ (Stop.special _ hsp),
      tokenize_special hsp, tokenize_wrapS r (ihr hr) rest hs]
    simp

theorem tokenize_str (c : Cat) (hc : ReadWF c) : tokenize c.str = toks c := by
  have := tokenize_str_append c hc [] Stop.nil
  simpa [tokenize_nil] using this

theorem operand_atom (b : Str) (f : Feat) (hc : WF (.atom b f)) :
    Operand (toks (.atom b f)) (.atom b f) := by
  obtain ⟨hb, hf, hp⟩ := hc
  have h0 := Feat.str_length_eq_zero f hf.un_ne_nil
  rw [toks]
  split
  next h => cases h0.1 h; exact Operand.bare b hb
  next h => exact Operand.feat b f hb (fun hm => h (h0.2 (hp hm))) hf fun e => h (h0.2 e)

theorem expr_toks (c : Cat) (hc : WF c) : Expr (toks c) c := by
  induction c with
  | atom b f => exact Expr.op _ _ (operand_atom b f hc)
  | fn l s r ihl ihr =>
    obtain ⟨hl, hsl, hr⟩ := hc
    have wrap : ∀ (c : Cat), WF c → Expr (toks c) c → Operand (wrapT c) c := by
      intro c hc he
      cases c with
      | atom b f => exact operand_atom b f hc
      | fn l s r => exact Operand.round _ _ he
    rw [toks_fn]
    exact Expr.bin _ _ _ _ _ (wrap l hl (ihl hl)) hsl (wrap r hr (ihr hr))

/-- the buffer goes on with `[`, a token, and a third token: the name before it takes a feature -/
def Bracketed (buf : List Str) : Prop := ∃ u v rest, buf = [cLBr] :: u :: v :: rest

theorem atomStep_ok {item : Str} {buf rest : List Str} {c : Cat} :
    atomStep item buf = .ok (c, rest) ↔
      (∃ u f, buf = [cLBr] :: u :: [cRBr] :: rest ∧ Feat.parse u = .ok f ∧ c = .atom item f) ∨
      (¬ Bracketed buf ∧ c = .atom item (.un none) ∧ rest = buf) := by
  constructor
  · intro h
    unfold atomStep at h
    split at h
    · rename_i b1 b2 b3 rest'
      split at h
      · rename_i h1
        split at h
        · cases h
        · rename_i f hf
          split at h
          · rename_i h3
            cases h
            exact .inl ⟨b2, f, by rw [beq_iff_eq.1 h1, beq_iff_eq.1 h3], hf, rfl⟩
          · cases h
      · rename_i h1
        cases h
        exact .inr ⟨fun ⟨u, v, r, e⟩ => h1 (by rw [(List.cons.inj e).1]; rfl), rfl, rfl⟩
    · rename_i hshort
      cases h
      exact .inr ⟨fun ⟨u, v, r, e⟩ => hshort _ _ _ _ e, rfl, rfl⟩
  · rintro (⟨u, f, rfl, hf, rfl⟩ | ⟨hb, rfl, rfl⟩)
    · simp [atomStep, hf]
    · unfold atomStep
      split
      · rename_i b1 b2 b3 r
        rw [if_neg fun e => hb ⟨b2, b3, r, by rw [beq_iff_eq.1 e]⟩]
      · rfl

theorem atomStep_length {item : Str} {buf rest : List Str} {c : Cat}
    (h : atomStep item buf = .ok (c, rest)) : rest.length ≤ buf.length := by
  rcases atomStep_ok.1 h with ⟨u, f, rfl, -, -⟩ | ⟨-, -, rfl⟩
  · exact Nat.le_add_right _ 3
  · exact Nat.le_refl _

theorem readLoop_fuel (f1 : Nat) : ∀ (f2 : Nat) (st : List Item) (buf : List Str),
    buf.length ≤ f1 → buf.length ≤ f2 → readLoop f1 st buf = readLoop f2 st buf := by
  induction f1 with
  | zero =>
    intro f2 st buf h1 _
    cases List.eq_nil_of_length_eq_zero (Nat.le_zero.1 h1)
    cases f2 <;> rfl
  | succ f1 ih =>
    intro f2 st buf h1 h2
    cases buf with
    | nil => cases f2 <;> rfl
    | cons item buf =>
      cases f2 with
      | zero => exact absurd h2 (Nat.not_succ_le_zero _)
      | succ f2 =>
        have h1 := Nat.le_of_succ_le_succ h1
        have h2 := Nat.le_of_succ_le_succ h2
        -- the two sides differ in the fuel of the recursive calls only: on `buf`, or on what
        -- `atomStep` left of it
        simp only [readLoop, fun st => ih f2 st buf h1 h2]
        cases h : atomStep item buf with
        | error e => rfl
        | ok p =>
          have hl := atomStep_length (c := p.1) (rest := p.2) h
          simp only [fun st => ih f2 st p.2 (Nat.le_trans hl h1) (Nat.le_trans hl h2)]

/-- the loop with exactly the fuel `parse` supplies -/
def run (st : List Item) (buf : List Str) : Except Err (List Item) := readLoop buf.length st buf

def readToks (ts : List Str) : Except Err Cat :=
  match run [] ts with
  | .ok st => finish st
  | .error e => .error e

theorem parse_eq (text : Str) : Cat.parse text = readToks (tokenize text) := rfl

theorem run_nil (st : List Item) : run st [] = .ok st := rfl

theorem run_cons (st : List Item) (item : Str) (buf : List Str) :
    run st (item :: buf) =
      if punctuations.elem item then run (.cat (.atom item (.un none)) :: st) buf
      else if isOpenTok item then run (.sym (item.headD 0) :: st) buf
      else if isCloseTok item then
        match closeStep item st with
        | .ok st' => run st' buf
        | .error e => .error e
      else if isSlashTok item then run (.sym (item.headD 0) :: st) buf
      else
        match atomStep item buf with
        | .ok (c, rest) => run (.cat c :: st) rest
        | .error e => .error e := by
  simp only [run, List.length_cons, readLoop]
  cases punctuations.elem item <;> cases isOpenTok item <;> cases isCloseTok item <;>
    cases isSlashTok item <;> try rfl
  cases h : atomStep item buf with
  | error e => rfl
  | ok p => exact readLoop_fuel _ _ _ _ (atomStep_length h) (Nat.le_refl _)

theorem punctuations_eq : punctuations =
    [[44], [46], [59], [58], [76, 82, 66], [82, 82, 66], [99, 111, 110, 106],
      [42, 83, 84, 65, 82, 84, 42], [42, 69, 78, 68, 42]] := by
  decide +kernel

theorem special_not_punct {c : Nat} (h : Cat.isSpecial c = true) :
    punctuations.elem [c] = false := by
  rw [punctuations_eq]
  simp only [Cat.isSpecial, Bool.or_eq_true, beq_iff_eq] at h
  rcases h with (((((((rfl | rfl) | rfl) | rfl) | rfl) | rfl) | rfl) | rfl) | rfl <;> decide

theorem plain_not_special_tok {b : Str} (hb : PlainTok b) {c : Nat}
    (hc : Cat.isSpecial c = true) : b ≠ [c] := by
  rintro rfl
  have := (plainChar_iff c).1 (hb.2 c List.mem_cons_self)
  rw [hc] at this
  exact absurd this.1 (by decide)

theorem tok_class_special {b : Str}
    (h : isOpenTok b = true ∨ isCloseTok b = true ∨ isSlashTok b = true) :
    ∃ c, b = [c] ∧ Cat.isSpecial c = true := by
  simp only [isOpenTok, isCloseTok, isSlashTok, Bool.or_eq_true, beq_iff_eq] at h
  rcases h with (rfl | rfl) | (rfl | rfl) | (rfl | rfl) | rfl <;> exact ⟨_, rfl, by decide⟩

/-- a token that is none of `( < ) > / \ |`: the reader takes it as an atom name.  `[` and `]` are
    such tokens: outside a group `name [ feature ]` they become atoms named `[` and `]`.  This, and
    that any token between `[` and `]` is taken as the feature text (`Step.feat`), is what the
    values read, `ProgramProps.ReadWF`, have more than `WF` -/
abbrev NameTok (t : Str) : Prop := isOpenTok t = false ∧ isCloseTok t = false ∧ isSlashTok t = false

theorem nameTok_of_not_special {b : Str} (hb : ∀ c, Cat.isSpecial c = true → b ≠ [c]) : NameTok b := by
  have h : ¬ (isOpenTok b = true ∨ isCloseTok b = true ∨ isSlashTok b = true) := fun h => by
    obtain ⟨c, rfl, hc⟩ := tok_class_special h
    exact hb c hc rfl
  simpa [not_or] using h

theorem plain_tok_class {b : Str} (hb : PlainTok b) : NameTok b :=
  nameTok_of_not_special fun _ hc => plain_not_special_tok hb hc

theorem punct_class {t : Str} (h : punctuations.elem t = true) : NameTok t :=
  nameTok_of_not_special fun c hc e => by
    rw [e, special_not_punct hc] at h
    cases h

/-- "the next token is not `[`": what follows an operand in every well-formed text -/
def NoBr (rest : List Str) : Prop := rest.head? ≠ some [cLBr]

theorem NoBr.notBracketed {buf : List Str} (h : NoBr buf) : ¬ Bracketed buf := by
  rintro ⟨u, v, rest, rfl⟩
  exact h rfl

theorem NoBr.nil : NoBr [] := by simp [NoBr]

theorem NoBr.special {c : Nat} (rest : List Str) (h : c ≠ cLBr) : NoBr ([c] :: rest) := by
  simpa [NoBr] using h

theorem NoBr.close {cl : Nat} (rest : List Str) (h : cl = cRPar ∨ cl = cGt) :
    NoBr ([cl] :: rest) :=
  NoBr.special rest (by rcases h with rfl | rfl <;> decide)

theorem NoBr.slash {s : Nat} (rest : List Str) (h : Cat.isSlashCode s = true) :
    NoBr ([s] :: rest) :=
  NoBr.special rest (slash_cases (P := (· ≠ cLBr)) (by decide) (by decide) (by decide) h)

theorem mkFunctor_inv {x f y : Item} {c : Cat} (h : mkFunctor x f y = .ok c) :
    ∃ a s b, x = .cat a ∧ f = .sym s ∧ y = .cat b ∧ Cat.isSlashCode s = true ∧ c = .fn a s b := by
  unfold mkFunctor at h
  split at h
  · rename_i a s b
    split at h
    · rename_i hs
      cases h
      exact ⟨a, s, b, rfl, rfl, rfl, hs, rfl⟩
    · cases h
  · cases h

def Pair (o cl : Nat) : Prop := (o = cLPar ∧ cl = cRPar) ∨ (o = cLt ∧ cl = cGt)

theorem Pair.isOpen {o cl : Nat} (h : Pair o cl) : o = cLPar ∨ o = cLt := h.imp (·.1) (·.1)

theorem Pair.isClose {o cl : Nat} (h : Pair o cl) : cl = cRPar ∨ cl = cGt := h.imp (·.2) (·.2)

theorem slash_not_open {s : Nat} (h : Cat.isSlashCode s = true) : s ≠ cLPar ∧ s ≠ cLt :=
  slash_cases (P := fun s => s ≠ cLPar ∧ s ≠ cLt) (by decide) (by decide) (by decide) h

theorem closeStep_ok {item : Str} {st st' : List Item} :
    closeStep item st = .ok st' ↔
      (∃ y o cl st1, st = y :: .sym o :: st1 ∧ item = [cl] ∧ Pair o cl ∧ st' = y :: st1) ∨
      (∃ a s b o st1, st = .cat b :: .sym s :: .cat a :: .sym o :: st1 ∧ Cat.isSlashCode s = true ∧
        (o = cLPar ∨ o = cLt) ∧ st' = .cat (.fn a s b) :: st1) := by
  constructor
  · intro h
    unfold closeStep at h
    split at h
    · cases h
    · rename_i y st0
      split at h
      · cases h
      · rename_i top st1
        split at h
        · rename_i hm
          cases h
          simp only [Bool.or_eq_true, Bool.and_eq_true, beq_iff_eq] at hm
          rcases hm with ⟨rfl, rfl⟩ | ⟨rfl, rfl⟩
          · exact .inl ⟨y, _, _, st1, rfl, rfl, .inl ⟨rfl, rfl⟩, rfl⟩
          · exact .inl ⟨y, _, _, st1, rfl, rfl, .inr ⟨rfl, rfl⟩, rfl⟩
        · split at h
          · cases h
          · rename_i x st2
            split at h
            · cases h
            · cases h
            · rename_i o st3
              split at h
              · rename_i ho
                split at h
                · rename_i c hc
                  cases h
                  obtain ⟨a, s, b, rfl, rfl, rfl, hs, rfl⟩ := mkFunctor_inv hc
                  exact .inr ⟨a, s, b, o, st3, rfl, hs, by simpa using ho, rfl⟩
                · cases h
              · cases h
  · rintro (⟨y, o, cl, st1, rfl, rfl, hp, rfl⟩ | ⟨a, s, b, o, st1, rfl, hs, ho, rfl⟩)
    · rcases hp with ⟨rfl, rfl⟩ | ⟨rfl, rfl⟩ <;> simp [closeStep]
    · obtain ⟨h1, h2⟩ := slash_not_open hs
      rcases ho with rfl | rfl <;> simp [closeStep, mkFunctor, hs, h1, h2]

theorem finish_ok {st : List Item} {c : Cat} :
    finish st = .ok c ↔
      st = [.cat c] ∨
      ∃ a s b, st = [.cat b, .sym s, .cat a] ∧ Cat.isSlashCode s = true ∧ c = .fn a s b := by
  constructor
  · intro h
    unfold finish at h
    split at h
    · cases h; exact .inl rfl
    · cases h
    · obtain ⟨a, s, b, rfl, rfl, rfl, hs, rfl⟩ := mkFunctor_inv h
      exact .inr ⟨a, s, b, rfl, hs, rfl⟩
    · cases h
  · rintro (rfl | ⟨a, s, b, rfl, hs, rfl⟩)
    · rfl
    · simp [finish, mkFunctor, hs]

/-- `o x s1 y s2 z` before a closing bracket: after popping `z`, `s2`, `y` the
    `assert stack.pop() in "(<"` meets `s1`, the `AssertionError` of `reject_flat_inner` -/
theorem closeStep_flat (cl s1 s2 : Nat) (b c : Cat) (st : List Item)
    (hs1 : Cat.isSlashCode s1 = true) (hs2 : Cat.isSlashCode s2 = true) :
    closeStep [cl] (.cat c :: .sym s2 :: .cat b :: .sym s1 :: st) = .error .assertion := by
  obtain ⟨h1, h2⟩ := slash_not_open hs2
  obtain ⟨h3, h4⟩ := slash_not_open hs1
  simp [closeStep, h1, h2, h3, h4]

/-- what one iteration does to the stack and the buffer when it does not raise.  In `name` a
    punctuation name never looks ahead for a feature (it is tested first, `Atom(item)`); any other
    name stays bare only if the buffer does not go on with `[` and two more tokens.  In `drop` the
    thing between the brackets is whatever lies there, a slash too: `a(/)b` reads to `a/b`, in
    depccg as here. -/
inductive Step : List Item → List Str → List Item → List Str → Prop
  | name {st t buf} : NameTok t → (t ∈ punctuations ∨ ¬ Bracketed buf) →
      Step st (t :: buf) (.cat (.atom t (.un none)) :: st) buf
  | feat {st t u f buf} : NameTok t → t ∉ punctuations → Feat.parse u = .ok f →
      Step st (t :: [cLBr] :: u :: [cRBr] :: buf) (.cat (.atom t f) :: st) buf
  | push {st o buf} : (o = cLPar ∨ o = cLt) ∨ Cat.isSlashCode o = true →
      Step st ([o] :: buf) (.sym o :: st) buf
  | drop {st y o cl buf} : Pair o cl → Step (y :: .sym o :: st) ([cl] :: buf) (y :: st) buf
  | reduce {st a s b o cl buf} : (o = cLPar ∨ o = cLt) → Cat.isSlashCode s = true →
      (cl = cRPar ∨ cl = cGt) →
      Step (.cat b :: .sym s :: .cat a :: .sym o :: st) ([cl] :: buf) (.cat (.fn a s b) :: st) buf

theorem class_open {o : Nat} (h : o = cLPar ∨ o = cLt) :
    punctuations.elem [o] = false ∧ isOpenTok [o] = true :=
  ⟨special_not_punct (by rcases h with rfl | rfl <;> decide), by rcases h with rfl | rfl <;> decide⟩

theorem class_close {cl : Nat} (h : cl = cRPar ∨ cl = cGt) :
    punctuations.elem [cl] = false ∧ isOpenTok [cl] = false ∧ isCloseTok [cl] = true :=
  ⟨special_not_punct (by rcases h with rfl | rfl <;> decide), by rcases h with rfl | rfl <;> decide⟩

/-- the loop on a closing bracket -/
theorem run_close {cl : Nat} (h : cl = cRPar ∨ cl = cGt) (st : List Item) (buf : List Str) :
    run st ([cl] :: buf) =
      match closeStep [cl] st with
      | .ok st' => run st' buf
      | .error e => .error e := by
  obtain ⟨h1, h2, h3⟩ := class_close h
  rw [run_cons, h1, h2, h3]
  rfl

theorem class_slash {s : Nat} (h : Cat.isSlashCode s = true) :
    punctuations.elem [s] = false ∧ isOpenTok [s] = false ∧ isCloseTok [s] = false ∧
      isSlashTok [s] = true :=
  ⟨special_not_punct (special_of_slash h),
    slash_cases (P := fun s => isOpenTok [s] = false ∧ isCloseTok [s] = false ∧
      isSlashTok [s] = true) (by decide) (by decide) (by decide) h⟩

theorem Step.run_eq {st st' : List Item} {buf buf' : List Str} (h : Step st buf st' buf') :
    run st buf = run st' buf' := by
  cases h with
  | name hn hb =>
    rename_i t
    rw [run_cons]
    by_cases hp : punctuations.elem t = true
    · rw [if_pos hp]
    · have hb := hb.resolve_left (by simpa using hp)
      rw [if_neg hp, hn.1, hn.2.1, hn.2.2, atomStep_ok.2 (.inr ⟨hb, rfl, rfl⟩)]
      rfl
  | feat hn hp hf =>
    rw [run_cons, if_neg (by simpa using hp), hn.1, hn.2.1, hn.2.2,
      atomStep_ok.2 (.inl ⟨_, _, rfl, hf, rfl⟩)]
    rfl
  | push ho =>
    rw [run_cons]
    rcases ho with ho | hs
    · rw [(class_open ho).1, (class_open ho).2]
      rfl
    · obtain ⟨h1, h2, h3, h4⟩ := class_slash hs
      rw [h1, h2, h3, h4]
      rfl
  | drop hp =>
    rw [run_close hp.isClose, closeStep_ok.2 (.inl ⟨_, _, _, _, rfl, rfl, hp, rfl⟩)]
  | reduce ho hs hcl =>
    rw [run_close hcl, closeStep_ok.2 (.inr ⟨_, _, _, _, _, rfl, hs, ho, rfl⟩)]

theorem run_ok_step {st out : List Item} {t : Str} {buf : List Str}
    (h : run st (t :: buf) = .ok out) : ∃ st' buf', Step st (t :: buf) st' buf' := by
  rw [run_cons] at h
  by_cases hp : punctuations.elem t = true
  · exact ⟨_, _, .name (punct_class hp) (.inl (by simpa using hp))⟩
  by_cases ho : isOpenTok t = true
  · simp only [isOpenTok, Bool.or_eq_true, beq_iff_eq] at ho
    rcases ho with rfl | rfl <;> exact ⟨_, _, .push (.inl (by simp))⟩
  by_cases hc : isCloseTok t = true
  · rw [if_neg hp, if_neg ho, if_pos hc] at h
    simp only [isCloseTok, Bool.or_eq_true, beq_iff_eq] at hc
    split at h
    · rename_i st1 hcs
      rcases closeStep_ok.1 hcs with
        ⟨y, o, cl, st2, rfl, e, hpair, rfl⟩ | ⟨a, s, b, o, st2, rfl, hs, ho', rfl⟩
      · subst e
        exact ⟨_, _, .drop hpair⟩
      · rcases hc with rfl | rfl <;> exact ⟨_, _, .reduce ho' hs (by simp)⟩
    · cases h
  by_cases hs : isSlashTok t = true
  · simp only [isSlashTok, Bool.or_eq_true, beq_iff_eq] at hs
    rcases hs with (rfl | rfl) | rfl <;> exact ⟨_, _, .push (.inr (by decide))⟩
  rw [if_neg hp, if_neg ho, if_neg hc, if_neg hs] at h
  have hn : NameTok t := ⟨by simpa using ho, by simpa using hc, by simpa using hs⟩
  split at h
  · rename_i c rest has
    rcases atomStep_ok.1 has with ⟨u, f, rfl, hf, rfl⟩ | ⟨hb, rfl, rfl⟩
    · exact ⟨_, _, .feat hn (by simpa using hp) hf⟩
    · exact ⟨_, _, .name hn (.inr hb)⟩
  · cases h

theorem Step.length_lt {st st' : List Item} {buf buf' : List Str} (h : Step st buf st' buf') :
    buf'.length < buf.length := by
  cases h <;> simp only [List.length_cons] <;> omega

theorem Step.sub {st st' : List Item} {buf buf' : List Str} (h : Step st buf st' buf') :
    ∀ t ∈ buf', t ∈ buf := by
  cases h <;> simp +contextual

theorem run_inv {I : List Item → List Str → Prop}
    (hI : ∀ {st buf st' buf'}, Step st buf st' buf' → I st buf → I st' buf') :
    ∀ {buf : List Str} {st out : List Item}, run st buf = .ok out → I st buf → I out []
  | [], _, _, h, hi => by cases h; exact hi
  | t :: buf, _, _, h, hi => by
    obtain ⟨st', buf', hs⟩ := run_ok_step h
    have := hs.length_lt
    exact run_inv hI (hs.run_eq ▸ h) (hI hs hi)
termination_by buf => buf.length

/-- reading an operand pushes its value, whatever is on the stack -/
def ReadsOperand (ts : List Str) (c : Cat) : Prop :=
  ∀ (st : List Item) (rest : List Str), NoBr rest → run st (ts ++ rest) = run (.cat c :: st) rest

/-- reading an expression and the bracket that closes it replaces the opener by its value -/
def ReadsExpr (ts : List Str) (c : Cat) : Prop :=
  ∀ (st : List Item) (rest : List Str) (o cl : Nat), Pair o cl →
    run (.sym o :: st) (ts ++ [cl] :: rest) = run (.cat c :: st) rest

/-- an operand and the slash after it -/
theorem ReadsOperand.slash {ts : List Str} {c : Cat} (h : ReadsOperand ts c) {s : Nat}
    (hs : Cat.isSlashCode s = true) (st : List Item) (rest : List Str) :
    run st (ts ++ [s] :: rest) = run (.sym s :: .cat c :: st) rest := by
  rw [h _ _ (NoBr.slash _ hs), (Step.push (.inr hs)).run_eq]

theorem reads_bracket {o cl : Nat} {ts : List Str} {c : Cat} (hp : Pair o cl)
    (ih : ReadsExpr ts c) : ReadsOperand ([o] :: ts ++ [[cl]]) c := by
  intro st rest _
  have e : [o] :: ts ++ [[cl]] ++ rest = [o] :: (ts ++ [cl] :: rest) := by simp
  rw [e, (Step.push (.inl hp.isOpen)).run_eq, ih st rest o cl hp]

theorem reads_op {ts : List Str} {c : Cat} (ho : ReadsOperand ts c) : ReadsExpr ts c :=
  fun st rest o cl hp => by
    rw [ho _ _ (NoBr.close rest hp.isClose), (Step.drop hp).run_eq]

theorem reads_bin {t1 t2 : List Str} {a b : Cat} {s : Nat} (h1 : ReadsOperand t1 a)
    (hs : Cat.isSlashCode s = true) (h2 : ReadsOperand t2 b) : ReadsExpr (t1 ++ [s] :: t2) (.fn a s b) :=
  fun st rest o cl hp => by
    have e : t1 ++ [s] :: t2 ++ [cl] :: rest = t1 ++ ([s] :: (t2 ++ [cl] :: rest)) := by simp
    rw [e, h1.slash hs, h2 _ _ (NoBr.close rest hp.isClose),
      (Step.reduce hp.isOpen hs hp.isClose).run_eq]

mutual
theorem reads_operand {ts : List Str} {c : Cat} (h : Operand ts c) : ReadsOperand ts c :=
  match h with
  | .bare _ hb => fun _ _ hr => (Step.name (plain_tok_class hb) (.inr hr.notBracketed)).run_eq
  | .feat _ f hb hp hf hne => fun _ _ _ =>
    (Step.feat (plain_tok_class hb) hp (pp_feat_parse_str f (pp_wfFeat_readFeat hf) hne)).run_eq
  | .round ts c he => reads_bracket (Or.inl ⟨rfl, rfl⟩) (reads_expr he)
  | .angle ts c he => reads_bracket (Or.inr ⟨rfl, rfl⟩) (reads_expr he)

theorem reads_expr {ts : List Str} {c : Cat} (h : Expr ts c) : ReadsExpr ts c :=
  match h with
  | .op ts c ho => reads_op (reads_operand ho)
  | .bin t1 t2 a b s h1 hs h2 => reads_bin (reads_operand h1) hs (reads_operand h2)
end

theorem read_top_op {ts : List Str} {c : Cat} (ho : ReadsOperand ts c) :
    readToks ts = .ok c := by
  have := ho [] [] NoBr.nil
  rw [List.append_nil] at this
  rw [readToks, this, run_nil]; rfl

theorem read_top_bin {t1 t2 : List Str} {a b : Cat} {s : Nat} (h1 : ReadsOperand t1 a)
    (hs : Cat.isSlashCode s = true) (h2 : ReadsOperand t2 b) :
    readToks (t1 ++ [s] :: t2) = .ok (.fn a s b) := by
  have e2 := h2 [.sym s, .cat a] [] NoBr.nil
  rw [List.append_nil] at e2
  rw [readToks, h1.slash hs, e2, run_nil]
  exact finish_ok.2 (.inr ⟨a, s, b, rfl, hs, rfl⟩)

theorem read_expr_top {ts : List Str} {c : Cat} (h : Expr ts c) :
    readToks ts = .ok c := by
  cases h with
  | op ts c ho => exact read_top_op (reads_operand ho)
  | bin t1 t2 a b s h1 hs h2 => exact read_top_bin (reads_operand h1) hs (reads_operand h2)

theorem readName_class {b : Str} (hb : ReadName b) : NameTok b := by
  rcases hb with hb | rfl | rfl
  · exact plain_tok_class hb
  · decide
  · decide

theorem reads_atom {b : Str} {f : Feat} (h : ReadWF (.atom b f)) :
    ReadsOperand (toks (.atom b f)) (.atom b f) := by
  obtain ⟨hb, hf, hp⟩ := h
  intro st rest hr
  rw [toks]
  by_cases h0 : (f.str.length == 0) = true
  · rw [if_pos h0]
    cases (pp_feat_str_length f hf).1 h0
    exact (Step.name (readName_class hb) (.inr hr.notBracketed)).run_eq
  · rw [if_neg h0]
    have hne : f ≠ .un none := fun h => h0 ((pp_feat_str_length f hf).2 h)
    exact (Step.feat (readName_class hb) (fun hm => hne (hp hm)) (pp_feat_parse_str f hf hne)).run_eq

theorem reads_wrapT : ∀ {c : Cat}, ReadWF c → ReadsOperand (wrapT c) c
  | .atom _ _, h => reads_atom h
  | .fn l s r, h => by
    show ReadsOperand ([cLPar] :: toks (.fn l s r) ++ [[cRPar]]) (.fn l s r)
    rw [toks_fn]
    exact reads_bracket (Or.inl ⟨rfl, rfl⟩)
      (reads_bin (reads_wrapT h.1) h.2.1 (reads_wrapT h.2.2))

theorem parse_print_readWF {c : Cat} (h : ReadWF c) : Cat.parse c.str = .ok c := by
  rw [parse_eq, tokenize_str c h]
  cases c with
  | atom b f => exact read_top_op (reads_atom h)
  | fn l s r =>
    rw [toks_fn]
    exact read_top_bin (reads_wrapT h.1) h.2.1 (reads_wrapT h.2.2)

theorem read_flat_top {t1 t2 t3 : List Str} {a b c : Cat} {s1 s2 : Nat}
    (h1 : Operand t1 a) (h2 : Operand t2 b) (h3 : Operand t3 c)
    (hs1 : Cat.isSlashCode s1 = true) (hs2 : Cat.isSlashCode s2 = true) :
    readToks (t1 ++ [s1] :: t2 ++ [s2] :: t3) = .error .runtime := by
  have e : t1 ++ [s1] :: t2 ++ [s2] :: t3 = t1 ++ ([s1] :: (t2 ++ ([s2] :: (t3 ++ [])))) := by simp
  rw [readToks, e, (reads_operand h1).slash hs1, (reads_operand h2).slash hs2,
    reads_operand h3 _ _ NoBr.nil, run_nil]
  rfl

theorem run_openers (pre : List Str) (hpre : ∀ t ∈ pre, t = [cLPar] ∨ t = [cLt])
    (st : List Item) (rest : List Str) :
    ∃ st', run st (pre ++ rest) = run st' rest := by
  induction pre generalizing st with
  | nil => exact ⟨st, rfl⟩
  | cons t pre ih =>
    have ih := ih fun t h => hpre t (List.mem_cons_of_mem _ h)
    rcases hpre t List.mem_cons_self with rfl | rfl
    all_goals
      obtain ⟨st', h⟩ := ih (.sym _ :: st)
      exact ⟨st', by rw [List.cons_append, (Step.push (.inl (by decide))).run_eq, h]⟩

theorem read_flat_inner {t1 t2 t3 pre post : List Str} {a b c : Cat} {s1 s2 o cl : Nat}
    (h1 : Operand t1 a) (h2 : Operand t2 b) (h3 : Operand t3 c)
    (hs1 : Cat.isSlashCode s1 = true) (hs2 : Cat.isSlashCode s2 = true)
    (ho : o = cLPar ∨ o = cLt) (hcl : cl = cRPar ∨ cl = cGt)
    (hpre : ∀ t ∈ pre, t = [cLPar] ∨ t = [cLt]) :
    run [] (pre ++ [o] :: (t1 ++ [s1] :: t2 ++ [s2] :: t3) ++ [cl] :: post) = .error .assertion := by
  have e : pre ++ [o] :: (t1 ++ [s1] :: t2 ++ [s2] :: t3) ++ [cl] :: post =
      pre ++ ([o] :: (t1 ++ ([s1] :: (t2 ++ ([s2] :: (t3 ++ ([cl] :: post))))))) := by simp
  obtain ⟨st', h⟩ := run_openers pre hpre [] ([o] :: (t1 ++ ([s1] :: (t2 ++ ([s2] :: (t3 ++ ([cl] :: post)))))))
  rw [e, h, (Step.push (.inl ho)).run_eq, (reads_operand h1).slash hs1, (reads_operand h2).slash hs2,
    reads_operand h3 _ _ (NoBr.close _ hcl), run_close hcl, closeStep_flat cl s1 s2 b c _ hs1 hs2]

end Depccg.C05
