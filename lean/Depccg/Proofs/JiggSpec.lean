/-
  What `to_jigg_xml` writes, as pure functions of the batch.  Three numberings replace the converter's counters
  (sentences along the batch, the trees of a sentence by `numberTrees`, the subtrees of a tree by `occs`), and
  `zipIdx` numbers the tokens.
  Spans: the stateful converter writes one `entry` per occurrence (`traverse_eq`), `process` then
  marks the first, and since the root mark is a function of the span number (`entryAt`) the spans of a `<ccg>` are
  `(occs t n 0).map (entryAt sid u n)` (`spans_eq`, `process_eq`); the ids in `child` are the span ids of the children,
  which are occurrences of the same tree (`occs_children`).
  Trees: the `<ccg>`s of a sentence are `(numberTrees ts 0 0).map (ccgOf sid u)` (`trees_map`).  Tokens: a
  `<token>` holds the encoder's three attributes under the token's own, `word` and `lemma` renamed (`jiggToken_eq`,
  `mem_jiggToken`).  Identifiers: the three kinds are one function `ident` of a prefix, injective in sentence,
  prefix and number (`ident_inj`).
-/
import Depccg.Props.C15Defs
import Depccg.Proofs.DictLemmas
import Depccg.Proofs.StrLemmas
import Depccg.Proofs.TreeLemmas
import Depccg.Proofs.Lit

namespace Depccg.C15
open Depccg Str Xml TextProps

/-- `s{sid}_{i}`, `s{sid}_ccg{k}` (and `spanId` : `s{sid}_sp{n}`) -/
def tokId (sid i : Nat) : Str := lit "s" ++ Str.ofNat sid ++ lit "_" ++ Str.ofNat i
def ccgId (sid k : Nat) : Str := lit "s" ++ Str.ofNat sid ++ lit "_ccg" ++ Str.ofNat k

/-- `s{sid}_{tail}` -/
def mkId (sid : Nat) (tail : Str) : Str := 115 :: (Str.ofNat sid ++ 95 :: tail)

theorem mkId_inj {a b : Nat} {t1 t2 : Str} (h : mkId a t1 = mkId b t2) : a = b ∧ t1 = t2 := by
  simp only [mkId, List.cons.injEq, true_and] at h
  have := append_sep_inj (ofNat_notMem a (Or.inr (by omega))) (ofNat_notMem b (Or.inr (by omega))) h
  exact ⟨Str.ofNat_inj this.1, this.2⟩

/-- `tokId`, `spanId` and `ccgId` as one function of the text `pre` between `_` and the number (`tokId_eq`, `spanId_eq`,
    `ccgId_eq`), so that identifiers are told apart once (`ident_inj`) -/
def ident (sid : Nat) (pre : Str) (n : Nat) : Str := mkId sid (pre ++ Str.ofNat n)

theorem tokId_eq (sid : Nat) : tokId sid = ident sid [] := by
  funext n
  rw [tokId, ident, mkId]; repeat rw [lit_ofList]
  simp

theorem spanId_eq (sid : Nat) : spanId sid = ident sid [115, 112] := by
  funext n
  rw [spanId, ident, mkId]; repeat rw [lit_ofList]
  simp

theorem ccgId_eq (sid : Nat) : ccgId sid = ident sid [99, 99, 103] := by
  funext n
  rw [ccgId, ident, mkId]; repeat rw [lit_ofList]
  simp

def idPrefixes : List Str := [[], [115, 112], [99, 99, 103]]

theorem ident_inj {s s' : Nat} {pre pre' : Str} {n n' : Nat} (hp : pre ∈ idPrefixes) (hp' : pre' ∈ idPrefixes)
    (h : ident s pre n = ident s' pre' n') : s = s' ∧ pre = pre' ∧ n = n' := by
  have nd : ∀ q ∈ idPrefixes, ∀ c ∈ q, c < 48 ∨ 57 < c := by decide
  exact ⟨(mkId_inj h).1, append_ofNat_inj (nd _ hp) (nd _ hp') (mkId_inj h).2⟩

theorem nodup_idents (sid : Nat) {pre : Str} (a m : Nat) (hp : pre ∈ idPrefixes := by decide) :
    ((List.range' a m).map (ident sid pre)).Nodup :=
  nodup_map_of_inj (fun _ _ e => (ident_inj hp hp e).2.2) (List.nodup_range' 1)

theorem idents_disjoint (sid : Nat) {pre pre' : Str} (hp : pre ∈ idPrefixes := by decide)
    (hp' : pre' ∈ idPrefixes := by decide) (hne : pre ≠ pre' := by decide) {l l' : List Nat} : ∀ a ∈ l.map (ident sid pre), ∀ b ∈ l'.map (ident sid pre'), a ≠ b := by
  intro a ha b hb e
  obtain ⟨i, -, rfl⟩ := List.mem_map.1 ha
  obtain ⟨j, -, rfl⟩ := List.mem_map.1 hb
  exact hne (ident_inj hp hp' e).2.1

theorem spanId_noSpace (sid n : Nat) : cSpace ∉ spanId sid n := by
  rw [spanId_eq, ident, mkId]
  have h1 := ofNat_notMem (x := 32) sid (Or.inl (by omega))
  have h2 := ofNat_notMem (x := 32) n (Or.inl (by omega))
  simp [cSpace, h1, h2]

theorem spanId_ne_nil (sid n : Nat) : spanId sid n ≠ [] := by
  rw [spanId_eq]; exact List.cons_ne_nil _ _

theorem split_one (sid n : Nat) : splitOn cSpace (spanId sid n) = [spanId sid n] :=
  Str.splitOn_of_notMem _ (spanId_noSpace sid n)

theorem split_two (sid n m : Nat) :
    splitOn cSpace (spanId sid n ++ cSpace :: spanId sid m) = [spanId sid n, spanId sid m] := by
  rw [Str.splitOn_sep _ (spanId_noSpace sid n), split_one]


def leafAttrs (cm id term b e : Str) : Attrs :=
  [(lit "category", cm), (lit "id", id), (lit "terminal", term), (lit "begin", b), (lit "end", e)]

def nodeAttrs (cm id ch rule b e : Str) : Attrs :=
  [(lit "category", cm), (lit "id", id), (lit "child", ch), (lit "rule", rule), (lit "begin", b), (lit "end", e)]

/-- `C07.nodes` (`nodes_eq`) -/
def nodes : Tree → Nat
  | .leaf .. => 1
  | .un _ _ _ ch => nodes ch + 1
  | .bin _ _ _ _ l r => nodes l + nodes r + 1

theorem nodes_eq : ∀ t : Tree, nodes t = C07.nodes t
  | .leaf .. => rfl
  | .un _ _ _ ch => congrArg (· + 1) (nodes_eq ch)
  | .bin _ _ _ _ l r => by rw [nodes, C07.nodes, nodes_eq l, nodes_eq r]

theorem nodes_pos : ∀ t : Tree, 1 ≤ nodes t := fun t => nodes_eq t ▸ C07.nodes_pos t

/-- the subtrees in pre-order, each with its span number and the position of its first leaf, when the
    tree itself is span `n` and starts at leaf `k` -/
def occs : Tree → Nat → Nat → List (Tree × Nat × Nat)
  | t@(.leaf ..), n, k => [(t, n, k)]
  | t@(.un _ _ _ ch), n, k => (t, n, k) :: occs ch (n + 1) k
  | t@(.bin _ _ _ _ l r), n, k => (t, n, k) :: (occs l (n + 1) k ++ occs r (n + 1 + nodes l) (k + l.numLeaves))

theorem occs_cons (t : Tree) (n k : Nat) : occs t n k = (t, n, k) :: (occs t n k).tail := by
  cases t <;> rfl

theorem occs_self (t : Tree) (n k : Nat) : (t, n, k) ∈ occs t n k := by
  rw [occs_cons]; exact List.mem_cons_self

theorem occs_length : ∀ (t : Tree) (n k : Nat), (occs t n k).length = nodes t
  | .leaf .., _, _ => rfl
  | .un _ _ _ ch, n, k => by simp only [occs, nodes, List.length_cons, occs_length ch]
  | .bin _ _ _ _ l r, n, k => by
    simp only [occs, nodes, List.length_cons, List.length_append, occs_length l, occs_length r]

theorem occs_numbers : ∀ (t : Tree) (n k : Nat), (occs t n k).map (·.2.1) = List.range' n (nodes t)
  | .leaf .., _, _ => rfl
  | .un _ _ _ ch, n, k => by
    rw [nodes, List.range'_succ, occs, List.map_cons, occs_numbers ch]
  | .bin _ _ _ _ l r, n, k => by
    rw [nodes, List.range'_succ, ← List.range'_append (s := n + 1), occs, List.map_cons, List.map_append,
      occs_numbers l, occs_numbers r, Nat.one_mul]

theorem occs_ge {t : Tree} {n k : Nat} {p : Tree × Nat × Nat} (h : p ∈ occs t n k) : n ≤ p.2.1 :=
  (List.mem_range'_1.1 (occs_numbers t n k ▸ List.mem_map_of_mem (f := fun q : Tree × Nat × Nat => q.2.1) h)).1

theorem occs_sub : ∀ (t : Tree) (n k : Nat), ∀ p ∈ occs t n k, ∀ q ∈ occs p.1 p.2.1 p.2.2, q ∈ occs t n k
  | .leaf .., n, k, p, hp, q, hq => by
    rw [List.mem_singleton.1 hp] at hq
    exact hq
  | .un _ _ _ ch, n, k, p, hp, q, hq => by
    rcases List.mem_cons.1 hp with rfl | hp
    · exact hq
    · exact List.mem_cons_of_mem _ (occs_sub ch _ _ p hp q hq)
  | .bin _ _ _ _ l r, n, k, p, hp, q, hq => by
    rcases List.mem_cons.1 hp with rfl | hp
    · exact hq
    · refine List.mem_cons_of_mem _ (List.mem_append.2 ?_)
      exact (List.mem_append.1 hp).imp (fun h => occs_sub l _ _ p h q hq) (fun h => occs_sub r _ _ p h q hq)

def leafOf : Tree × Nat × Nat → Option (Token × Nat)
  | (.leaf _ tok _ _, _, k) => some (tok, k)
  | _ => none

theorem occs_leaves : ∀ (t : Tree) (n k : Nat), (occs t n k).filterMap leafOf = t.tokens.zipIdx k
  | .leaf .., _, _ => rfl
  | .un _ _ _ ch, n, k => by
    rw [occs, List.filterMap_cons]
    exact occs_leaves ch (n + 1) k
  | .bin _ _ _ _ l r, n, k => by
    rw [occs, List.filterMap_cons]
    simp only [leafOf, List.filterMap_append, occs_leaves l, occs_leaves r, Tree.tokens, List.zipIdx_append,
      tokens_length]

theorem occs_leaf {t : Tree} {n : Nat} {c : Cat} {tok : Token} {s y : Str} {n' k' : Nat}
    (h : (.leaf c tok s y, n', k') ∈ occs t n 0) : t.tokens[k']? = some tok := by
  have : (tok, k') ∈ t.tokens.zipIdx 0 := by
    rw [← occs_leaves t n 0]
    exact List.mem_filterMap.2 ⟨_, h, rfl⟩
  exact (List.mem_zipIdx_iff_le_and_getElem?_sub.1 this).2

def headAttrs (sid : Nat) (u : Bool) : Tree × Nat × Nat → Attrs
  | (.leaf c _ _ _, n, k) =>
    leafAttrs (catMulti c) (spanId sid n) (tokId sid k) (Str.ofNat k) (Str.ofNat (k + 1))
  | (.un c s y ch, n, k) =>
    nodeAttrs (catMulti c) (spanId sid n) (spanId sid (n + 1)) (if u then y else s)
      (Str.ofNat k) (Str.ofNat (k + ch.numLeaves))
  | (.bin c s y _ l r, n, k) =>
    nodeAttrs (catMulti c) (spanId sid n) (spanId sid (n + 1) ++ cSpace :: spanId sid (n + 1 + nodes l))
      (if u then y else s) (Str.ofNat k) (Str.ofNat (k + (l.numLeaves + r.numLeaves)))

def entry (sid : Nat) (u : Bool) : Bool → Tree × Nat × Nat → Attrs
  | false, p => headAttrs sid u p
  | true, p => setAttr (headAttrs sid u p) (lit "root") (lit "true")

/-- the span of an occurrence inside the `<ccg>` whose first span is number `r`: that one carries the root mark -/
def entryAt (sid : Nat) (u : Bool) (r : Nat) (p : Tree × Nat × Nat) : Attrs := entry sid u (p.2.1 == r) p

theorem occs_tail_gt {t : Tree} {n k : Nat} {p : Tree × Nat × Nat} (h : p ∈ (occs t n k).tail) : n < p.2.1 := by
  cases t with
  | leaf => cases h
  | un => exact occs_ge h
  | bin => exact (List.mem_append.1 h).elim occs_ge fun h' => by have := occs_ge h'; omega

theorem entryAt_tail (sid : Nat) (u : Bool) {t : Tree} {n k : Nat} {p : Tree × Nat × Nat} (h : p ∈ (occs t n k).tail) :
    entryAt sid u n p = entry sid u false p := by
  rw [entryAt, beq_eq_false_iff_ne.2 (Nat.ne_of_gt (occs_tail_gt h))]

/-- the spans `traverse` writes for the tree, when `n` is the next span number and `k` the leaf counter -/
def plainSpans (sid : Nat) (u : Bool) (t : Tree) (n k : Nat) : List Attrs := (occs t n k).map (entry sid u false)

theorem plainSpans_un (sid : Nat) (u : Bool) (c : Cat) (s y : Str) (ch : Tree) (n k : Nat) :
    plainSpans sid u (.un c s y ch) n k = entry sid u false (.un c s y ch, n, k) :: plainSpans sid u ch (n + 1) k := rfl

theorem plainSpans_bin (sid : Nat) (u : Bool) (c : Cat) (s y : Str) (hd : Bool) (l r : Tree) (n k : Nat) :
    plainSpans sid u (.bin c s y hd l r) n k = entry sid u false (.bin c s y hd l r, n, k) ::
      (plainSpans sid u l (n + 1) k ++ plainSpans sid u r (n + 1 + nodes l) (k + l.numLeaves)) := by
  simp only [plainSpans, occs, List.map_cons, List.map_append]

theorem traverse_eq (sid : Nat) (u : Bool) : ∀ (t : Tree) (st : SpanSt),
    jiggTraverse sid u t st = ((spanId sid st.next, st.counter),
      { next := st.next + nodes t, spans := st.spans ++ plainSpans sid u t st.next st.counter,
        counter := st.counter + t.numLeaves })
  | .leaf c tok s y, st => rfl
  | .un c s y ch, st => by
    simp only [jiggTraverse, traverse_eq sid u ch, plainSpans_un, nodes, Tree.numLeaves]
    refine Prod.ext rfl ?_
    simp only [SpanSt.mk.injEq]
    refine ⟨by omega, ?_, trivial⟩
    rw [List.append_assoc, List.singleton_append, set_mid]
    rfl
  | .bin c s y hd l r, st => by
    simp only [jiggTraverse, traverse_eq sid u l, traverse_eq sid u r, plainSpans_bin, nodes, Tree.numLeaves]
    refine Prod.ext rfl ?_
    simp only [SpanSt.mk.injEq]
    refine ⟨by omega, ?_, by omega⟩
    rw [List.append_assoc, List.append_assoc, List.singleton_append, set_mid]
    simp [Nat.add_assoc, entry, headAttrs, nodeAttrs]

/-- `res[0].set('root', 'true')` : what `process` does to the spans once `traverse` has returned -/
def rootify : List Attrs → List Attrs
  | [] => []
  | first :: rest => setAttr first (lit "root") (lit "true") :: rest

theorem rootify_plainSpans (sid : Nat) (u : Bool) (t : Tree) (n k : Nat) :
    rootify (plainSpans sid u t n k) = entry sid u true (t, n, k) :: (plainSpans sid u t n k).tail := by
  cases t <;> rfl

theorem spans_eq (sid : Nat) (u : Bool) (t : Tree) (n k : Nat) :
    rootify (plainSpans sid u t n k) = (occs t n k).map (entryAt sid u n) := by
  rw [rootify_plainSpans, plainSpans, ← List.map_tail]
  conv => rhs; rw [occs_cons, List.map_cons, entryAt, beq_self_eq_true]
  exact congrArg _ (List.map_congr_left fun p hp => (entryAt_tail sid u hp).symm)

theorem process_eq (sid processed : Nat) (u : Bool) (t : Tree) (next : Nat) :
    jiggProcess sid processed u t next =
      ({ attrs := [(lit "id", ccgId sid processed), (lit "root", spanId sid next)],
         spans := (occs t next 0).map (entryAt sid u next) }, next + nodes t) := by
  rw [← spans_eq]
  simp only [jiggProcess, traverse_eq, List.nil_append]
  rfl

def terminalOf (sid : Nat) : Tree × Nat × Nat → Option Str
  | (.leaf .., _, k) => some (tokId sid k)
  | _ => none

def childOf (sid : Nat) : Tree × Nat × Nat → Option Str
  | (.leaf .., _, _) => none
  | (.un .., n, _) => some (spanId sid (n + 1))
  | (.bin _ _ _ _ l _, n, _) => some (spanId sid (n + 1) ++ cSpace :: spanId sid (n + 1 + nodes l))

def ruleOf (u : Bool) : Tree × Nat × Nat → Option Str
  | (.leaf .., _, _) => none
  | (.un _ s y _, _, _) => some (if u then y else s)
  | (.bin _ s y _ _ _, _, _) => some (if u then y else s)

section
variable (sid : Nat) (u : Bool) {rt : Bool} (r : Nat) (p : Tree × Nat × Nat)

/-- every attribute of a span, read by name (the names are decoded, then the reads are evaluated) -/
theorem entry_reads :
    Dict.get? (entry sid u rt p) (lit "id") = some (spanId sid p.2.1) ∧
    Dict.get? (entry sid u rt p) (lit "category") = some (catMulti p.1.cat) ∧
    Dict.get? (entry sid u rt p) (lit "begin") = some (Str.ofNat p.2.2) ∧
    Dict.get? (entry sid u rt p) (lit "end") = some (Str.ofNat (p.2.2 + p.1.numLeaves)) ∧
    Dict.get? (entry sid u rt p) (lit "root") = (if rt then some (lit "true") else none) ∧
    Dict.get? (entry sid u rt p) (lit "terminal") = terminalOf sid p ∧
    Dict.get? (entry sid u rt p) (lit "child") = childOf sid p ∧
    Dict.get? (entry sid u rt p) (lit "rule") = ruleOf u p := by
  obtain ⟨t, n, k⟩ := p
  cases t <;> cases rt <;> (simp only [entry, headAttrs, leafAttrs, nodeAttrs]; repeat rw [lit_ofList]) <;>
    exact ⟨rfl, rfl, rfl, rfl, rfl, rfl, rfl, rfl⟩

theorem entryAt_id : attr (entryAt sid u r p) "id" = some (spanId sid p.2.1) := (entry_reads ..).1
theorem entryAt_category : attr (entryAt sid u r p) "category" = some (catMulti p.1.cat) := (entry_reads ..).2.1
theorem entryAt_begin : attr (entryAt sid u r p) "begin" = some (Str.ofNat p.2.2) := (entry_reads ..).2.2.1
theorem entryAt_end : attr (entryAt sid u r p) "end" = some (Str.ofNat (p.2.2 + p.1.numLeaves)) :=
  (entry_reads ..).2.2.2.1
theorem entryAt_root : attr (entryAt sid u r p) "root" = if p.2.1 == r then some (lit "true") else none :=
  (entry_reads ..).2.2.2.2.1
theorem entryAt_terminal : attr (entryAt sid u r p) "terminal" = terminalOf sid p := (entry_reads ..).2.2.2.2.2.1
theorem entryAt_child : attr (entryAt sid u r p) "child" = childOf sid p := (entry_reads ..).2.2.2.2.2.2.1
theorem entryAt_rule : attr (entryAt sid u r p) "rule" = ruleOf u p := (entry_reads ..).2.2.2.2.2.2.2
end

theorem occs_children (sid : Nat) {t : Tree} {n k : Nat} {p : Tree × Nat × Nat} (hp : p ∈ occs t n k) {ch : Str}
    (h : childOf sid p = some ch) : ∃ f ∈ occs t n k, ∃ l ∈ occs t n k,
      (splitOn cSpace ch = [spanId sid f.2.1] ∧ f = l ∨ splitOn cSpace ch = [spanId sid f.2.1, spanId sid l.2.1]) ∧
      p.2.2 = f.2.2 ∧ p.2.2 + p.1.numLeaves = l.2.2 + l.1.numLeaves := by
  have sub := occs_sub t n k p hp
  obtain ⟨t', n', k'⟩ := p
  cases t' with
  | leaf => cases h
  | un c s y ch' =>
    cases h
    have hc := sub (ch', n' + 1, k') (List.mem_cons_of_mem _ (occs_self ..))
    exact ⟨_, hc, _, hc, Or.inl ⟨split_one .., rfl⟩, rfl, rfl⟩
  | bin c s y hd l r =>
    cases h
    exact ⟨_, sub (l, n' + 1, k') (List.mem_cons_of_mem _ (List.mem_append_left _ (occs_self ..))),
      _, sub (r, n' + 1 + nodes l, k' + l.numLeaves) (List.mem_cons_of_mem _ (List.mem_append_right _ (occs_self ..))),
      Or.inr (split_two ..), rfl, (Nat.add_assoc ..).symm⟩

def totalNodes : List Tree → Nat
  | [] => 0
  | t :: ts => nodes t + totalNodes ts

/-- the trees of a sentence, each with the number of its `<ccg>` and of its first span -/
def numberTrees : List Tree → Nat → Nat → List (Tree × Nat × Nat)
  | [], _, _ => []
  | t :: ts, i, n => (t, i, n) :: numberTrees ts (i + 1) (n + nodes t)

def ccgOf (sid : Nat) (u : Bool) (x : Tree × Nat × Nat) : JCcg :=
  { attrs := [(lit "id", ccgId sid x.2.1), (lit "root", spanId sid x.2.2)],
    spans := (occs x.1 x.2.2 0).map (entryAt sid u x.2.2) }

theorem trees_map (sid : Nat) (u : Bool) : ∀ (ts : List Tree) (i n : Nat),
    jiggTrees sid u ts i n = (numberTrees ts i n).map (ccgOf sid u)
  | [], _, _ => rfl
  | t :: ts, i, n => by
    rw [jiggTrees, process_eq, numberTrees, List.map_cons]
    exact congrArg _ (trees_map sid u ts _ _)

theorem numberTrees_fst : ∀ (ts : List Tree) (i n : Nat), (numberTrees ts i n).map (·.1) = ts
  | [], _, _ => rfl
  | t :: ts, _, _ => congrArg (t :: ·) (numberTrees_fst ts _ _)

theorem numberTrees_idx : ∀ (ts : List Tree) (i n : Nat), (numberTrees ts i n).map (·.2.1) = List.range' i ts.length
  | [], _, _ => rfl
  | t :: ts, i, n => by rw [numberTrees, List.map_cons, numberTrees_idx ts, List.length_cons, List.range'_succ]

theorem numberTrees_spans : ∀ (ts : List Tree) (i n : Nat),
    (numberTrees ts i n).flatMap (fun x => List.range' x.2.2 (nodes x.1)) = List.range' n (totalNodes ts)
  | [], _, _ => rfl
  | t :: ts, i, n => by
    rw [numberTrees, List.flatMap_cons, numberTrees_spans ts, totalNodes, ← List.range'_append (s := n), Nat.one_mul]

theorem mem_numberTrees {ts : List Tree} {i n : Nat} {x : Tree × Nat × Nat} (h : x ∈ numberTrees ts i n) : x.1 ∈ ts :=
  numberTrees_fst ts i n ▸ List.mem_map_of_mem (f := (·.1)) h

theorem get?_none_of_notin {d : Attrs} {k : Str} (h : k ∉ d.map (·.1)) : Dict.get? d k = none :=
  C06.get?_eq_none_iff.2 fun v hv => h (List.mem_map.2 ⟨(k, v), hv, rfl⟩)

theorem mem_renameKey {t : Token} {old new : Str} {e : Str × Str} (h : e ∈ renameKey t old new) :
    e ∈ t ∨ ∃ v, (old, v) ∈ t ∧ e = (new, v) := by
  unfold renameKey at h
  split at h
  · next v hv =>
    rcases C06.mem_set h with rfl | h
    · exact Or.inr ⟨v, C06.mem_of_get? hv, rfl⟩
    · exact Or.inl (List.mem_filter.1 h).1
  · exact Or.inl h

theorem keys_rename_nodup (old new : Str) (d : Token) (h : (d.map (·.1)).Nodup) :
    ((renameKey d old new).map (·.1)).Nodup := by
  unfold renameKey
  split
  · exact C06.keys_set_nodup _ _ (List.Nodup.sublist (List.Sublist.map _ List.filter_sublist) h)
  · exact h

theorem get?_rename (old new : Str) (d : Token) (k : Str) :
    Dict.get? (renameKey d old new) k =
      match Dict.get? d old with
      | some v => if k = new then some v else if k = old then none else Dict.get? d k
      | none => Dict.get? d k := by
  unfold renameKey
  cases h : Dict.get? d old with
  | none => rfl
  | some v =>
    simp only
    by_cases hk : k = new
    · subst hk; simp [C06.get?_set_self]
    · rw [C06.get?_set_ne (fun e => hk e.symm), if_neg hk]
      rw [C06.get?_filter (fun x => x != old)]
      by_cases ho : k = old
      · simp [ho]
      · simp [ho]

theorem get?_rename_other {old new k : Str} {d : Token} (h1 : k ≠ new) (h2 : k ≠ old) :
    Dict.get? (renameKey d old new) k = Dict.get? d k := by
  rw [get?_rename]
  split
  · rw [if_neg h1, if_neg h2]
  · rfl

def renamed (tok : Token) : Token := renameKey (renameKey tok (lit "word") (lit "surf")) (lit "lemma") (lit "base")

theorem jiggToken_eq (sid idx : Nat) (c : Cat) (tok : Token) :
    jiggToken sid idx c tok =
      C06.setAll [(lit "start", Str.ofNat idx), (lit "cat", c.str), (lit "id", tokId sid idx)] (renamed tok) := rfl

theorem xmlTree_leaf (c : Cat) (tok : Token) (s y : Str) (n : Nat) :
    (xmlTree (.leaf c tok s y) n).1 =
      .lf (C06.setAll [(lit "start", Str.ofNat n), (lit "span", lit "1"), (lit "cat", c.str)] tok) := rfl

theorem mem_renamed {tok : Token} {e : Str × Str} (h : e ∈ renamed tok) :
    e ∈ tok ∨ (∃ v, (lit "word", v) ∈ tok ∧ e = (lit "surf", v)) ∨ ∃ v, (lit "lemma", v) ∈ tok ∧ e = (lit "base", v) := by
  rcases mem_renameKey h with h | ⟨v, hv, rfl⟩
  · exact (mem_renameKey h).imp_right Or.inl
  · rcases mem_renameKey hv with hv | ⟨v', _, e⟩
    · exact Or.inr (Or.inr ⟨v, hv, rfl⟩)
    · exact absurd (congrArg Prod.fst e) (by decide : lit "lemma" ≠ lit "surf")

theorem mem_jiggToken {sid idx : Nat} {c : Cat} {tok : Token} {e : Str × Str} (h : e ∈ jiggToken sid idx c tok) :
    e ∈ [(lit "start", Str.ofNat idx), (lit "cat", c.str), (lit "id", tokId sid idx)] ∨ e ∈ tok ∨
      (∃ v, (lit "word", v) ∈ tok ∧ e = (lit "surf", v)) ∨ ∃ v, (lit "lemma", v) ∈ tok ∧ e = (lit "base", v) := by
  rw [jiggToken_eq] at h
  exact (C06.mem_setAll h).symm.imp_right mem_renamed

theorem jiggToken_id (sid idx : Nat) (c : Cat) (tok : Token) (h : ∀ kv ∈ tok, kv.1 ≠ lit "id") :
    Dict.get? (jiggToken sid idx c tok) (lit "id") = some (tokId sid idx) := by
  rw [jiggToken_eq, C06.get?_setAll_notin]
  · repeat rw [lit_ofList]
    rfl
  · intro v hv
    rcases mem_renamed hv with hv | ⟨_, _, e⟩ | ⟨_, _, e⟩
    · exact h _ hv rfl
    · exact absurd (congrArg Prod.fst e) (by decide : lit "id" ≠ lit "surf")
    · exact absurd (congrArg Prod.fst e) (by decide : lit "id" ≠ lit "base")

theorem leafCats_length : ∀ t : Tree, (leafCats t).length = t.numLeaves
  | .leaf .. => rfl
  | .un _ _ _ ch => leafCats_length ch
  | .bin _ _ _ _ l r => by simp [leafCats, Tree.numLeaves, leafCats_length l, leafCats_length r]

theorem allCats_leafCats {P : Cat → Prop} : ∀ {t : Tree}, AllCats P t → ∀ c ∈ leafCats t, P c
  | .leaf .., h, _, hm => List.mem_singleton.1 hm ▸ h
  | .un _ _ _ ch, h, c, hm => allCats_leafCats (t := ch) h.2 c hm
  | .bin _ _ _ _ l r, h, c, hm =>
    (List.mem_append.1 hm).elim (allCats_leafCats (t := l) h.2.1 c) (allCats_leafCats (t := r) h.2.2 c)

/-- the `<tokens>` of a sentence -/
def sentToks (sid : Nat) (t : Tree) : List Attrs :=
  ((t.tokens.zip (leafCats t)).zipIdx).map fun x => jiggToken sid x.2 x.1.2 x.1.1

theorem mem_sentToks {sid : Nat} {t : Tree} {a : Attrs} (h : a ∈ sentToks sid t) :
    ∃ tok ∈ t.tokens, ∃ c ∈ leafCats t, ∃ i, a = jiggToken sid i c tok := by
  obtain ⟨⟨⟨tok, c⟩, i⟩, hq, rfl⟩ := List.mem_map.1 h
  have := List.of_mem_zip (List.fst_mem_of_mem_zipIdx hq)
  exact ⟨tok, this.1, c, this.2, i, rfl⟩

theorem jiggOfAux_nil_cons (u : Bool) (rest : List (List Tree)) (sid : Nat) :
    jiggOfAux u ([] :: rest) sid = .error .indexError := rfl

theorem jiggOfAux_cons {u : Bool} {t : Tree} {ts : List Tree} {rest : List (List Tree)} {sid : Nat}
    {ss : List JSentence} : jiggOfAux u ((t :: ts) :: rest) sid = .ok ss ↔
    ∃ more, jiggOfAux u rest (sid + 1) = .ok more ∧
      ss = ⟨sentToks sid t, jiggTrees sid u (t :: ts) 0 0⟩ :: more := by
  simp only [jiggOfAux]
  split
  · next e he => exact ⟨(fun h => nomatch h), fun ⟨more, hmore, _⟩ => nomatch he.symm.trans hmore⟩
  · next more hmore =>
    exact ⟨fun h => ⟨more, hmore, (Except.ok.inj h).symm⟩,
      fun ⟨more', hmore', e⟩ => Except.ok.inj (hmore.symm.trans hmore') ▸ e ▸ rfl⟩

theorem jiggOfAux_total (u : Bool) : ∀ (batch : List (List Tree)) (sid : Nat),
    (∀ trees ∈ batch, trees ≠ []) → ∃ ss, jiggOfAux u batch sid = .ok ss
  | [], _, _ => ⟨_, rfl⟩
  | [] :: _, _, h => absurd rfl (h [] (List.mem_cons_self ..))
  | (t :: ts) :: rest, sid, h => by
    obtain ⟨more, hm⟩ := jiggOfAux_total u rest (sid + 1) fun x hx => h x (List.mem_cons_of_mem _ hx)
    exact ⟨_, jiggOfAux_cons.2 ⟨more, hm, rfl⟩⟩

end Depccg.C15
