/-
  Lemmas about the program model `Cli` that need the statements of `CliDefs`: the independent reader
  `readFmt8` on the text of `fmt8` (`readFmt8_text`), the tokens the program builds from an input
  line (`FieldsOf`), and `mainText` after its three readers (`mainText_eq_solo`).
-/
import Depccg.Props.CliDefs
import Depccg.Props.TopLevel
import Depccg.Proofs.ScoreLemmas

namespace Depccg.CliProps
open Depccg Str Search GlueRun Lazy Print Cli Read FileProps LazyProps

theorem digitsVal_digits {s : Str} (h : ∀ c ∈ s, 48 ≤ c ∧ c ≤ 57) :
    digitsVal s = some (ofDigits 0 s) := by
  cases s with
  | nil => rfl
  | cons c cs => exact foldl_digits (fun a c hc => by simp [hc, Nat.mul_comm]) 0 h

/-- `readFmt8` unfolded once, under the facts its tests ask for; the sign is `if neg` over a `Prop`
    so that the `if k < 0` of `fmt8_eq` is an instance as it stands -/
theorem readFmt8_eq (neg : Prop) [Decidable neg] {body ip fp : Str} {i f : Nat}
    (hb : body.head? ≠ some 45) (hs : splitOn 46 body = [ip, fp]) (hl : fp.length = 8)
    (hne : ip ≠ []) (hi : digitsVal ip = some i) (hf : digitsVal fp = some f)
    (hm : f * 64 % 100000000 = 0) :
    readFmt8 ((if neg then [45] else []) ++ body) =
      some (if neg then -((i * 64 + f * 64 / 100000000 : Nat) : Int)
        else ((i * 64 + f * 64 / 100000000 : Nat) : Int)) := by
  by_cases hn : neg
  · simp only [if_pos hn, List.cons_append, List.nil_append, readFmt8, hs, hl, hne, hi, hf, hm,
      ne_eq, not_false_eq_true, and_self, if_true]
  · -- no sign to strip: by `hb` the first `match` of `readFmt8` takes its second arm
    simp only [if_neg hn, List.nil_append]
    unfold readFmt8
    split
    · next neg body' hm' =>
      split at hm'
      · simp at hb
      · cases hm'
        simp only [hs, hl, hne, hi, hf, hm, ne_eq, not_false_eq_true, and_self, if_true,
          Bool.false_eq_true, if_false]

/-- `i.m00` with `m` written in six digits: when `m · 100 · 64 = r · 10^8` the value times 64 is `i · 64 + r` -/
theorem readFmt8_text (neg : Prop) [Decidable neg] (i m r : Nat) (hm : m < 10 ^ 6)
    (hr : m * 100 * 64 = r * 100000000) :
    readFmt8 ((if neg then [45] else []) ++ (Str.ofNat i ++ [46] ++ padDigits 6 m ++ [48, 48])) =
      some (if neg then -((i * 64 + r : Nat) : Int) else ((i * 64 + r : Nat) : Int)) := by
  obtain ⟨hpd, hpl, hpv⟩ := padDigits_spec (by omega) hm
  have hfd : ∀ c ∈ padDigits 6 m ++ [48, 48], 48 ≤ c ∧ c ≤ 57 := by
    simp only [List.forall_mem_append]
    exact ⟨hpd, by simp⟩
  have e : Str.ofNat i ++ [46] ++ padDigits 6 m ++ [48, 48] =
      Str.ofNat i ++ 46 :: (padDigits 6 m ++ [48, 48]) := by simp
  have hdiv : m * 100 * 64 / 100000000 = r := by rw [hr]; exact Nat.mul_div_cancel r (by decide)
  rw [e, ← hdiv]
  refine readFmt8_eq neg (fp := padDigits 6 m ++ [48, 48]) (f := m * 100) ?_ ?_ (by simp [hpl])
    (ofNat_ne_nil i) ((digitsVal_digits (ofNat_digits i)).trans (by rw [ofDigits_ofNat])) ?_
    (by rw [hr]; exact Nat.mul_mod_left _ _)
  · obtain ⟨d, t, hd, hd1, _⟩ := ofNat_head i
    simp only [hd, List.cons_append, List.head?_cons, ne_eq, Option.some.injEq]
    omega
  · rw [splitOn_sep _ (ofNat_notMem _ (by omega)),
      splitOn_of_notMem _ fun h => by have := hfd 46 h; omega]
  · rw [digitsVal_digits hfd, ofDigits_append, hpv]
    simp only [ofDigits, List.foldl_cons, List.foldl_nil, Option.some.injEq]
    omega

def FieldsOf (line : Str) (tok : Token) : Prop :=
  ∃ w l p e c, tok = [(lit "word", w), (lit "lemma", l), (lit "pos", p), (lit "entity", e),
      (lit "chunk", c)] ∧ ∀ v ∈ [w, l, p, e, c], (∀ x ∈ v, x ∈ line) ∨ v = lit "XX"

theorem FieldsOf.shape {line : Str} {tok : Token} (h : FieldsOf line tok) :
    ∃ w l p e c, tok = [(lit "word", w), (lit "lemma", l), (lit "pos", p), (lit "entity", e),
      (lit "chunk", c)] :=
  let ⟨w, l, p, e, c, h, _⟩ := h
  ⟨w, l, p, e, c, h⟩

theorem ofPiped_ok {s : Str} {tok : Token} (h : ofPiped s = .ok tok) :
    ∃ w l p e c, tok = [(lit "word", w), (lit "lemma", l), (lit "pos", p), (lit "entity", e),
        (lit "chunk", c)] ∧ ∀ v ∈ [w, l, p, e, c], v ∈ splitOn cBar s ∨ v = lit "XX" := by
  unfold ofPiped at h
  split at h
  · rename_i heq
    cases h
    exact ⟨_, _, _, _, _, rfl, by simp [heq]⟩
  · rename_i heq
    cases h
    exact ⟨_, _, _, _, _, rfl, by simp [heq]⟩
  · rename_i heq
    cases h
    exact ⟨_, _, _, _, _, rfl, by simp [heq]⟩
  · cases h

theorem tokensOfLine_fields {piped : Bool} {line : Str} {toks : List Token}
    (h : tokensOfLine piped line = .ok toks) : ∀ tok ∈ toks, FieldsOf line tok := by
  intro tok htok
  obtain ⟨w, hw, hwt⟩ := mapExcept_mem h tok htok
  have sub : ∀ {v : Str} {c : Nat}, v ∈ splitOn c w → ∀ x ∈ v, x ∈ line := fun hv x hx =>
    (mem_of_mem_splitOn hw x (mem_of_mem_splitOn hv x hx).1).1
  cases piped with
  | false =>
    cases hwt
    refine ⟨w, _, _, _, _, rfl, fun v hv => ?_⟩
    rcases List.mem_cons.1 hv with rfl | hv
    · exact .inl fun x hx => (mem_of_mem_splitOn hw x hx).1
    · simp only [List.mem_cons, List.not_mem_nil, or_false, or_self] at hv
      exact .inr hv
  | true =>
    obtain ⟨_, _, _, _, _, rfl, hv⟩ := ofPiped_ok hwt
    exact ⟨_, _, _, _, _, rfl, fun v hm => (hv v hm).imp_left sub⟩

theorem doc_fields {piped : Bool} {lines : List Str} {doc : List (List Token)}
    (h : Cli.mapExcept (tokensOfLine piped) lines = .ok doc) :
    ∀ toks ∈ doc, ∀ tok ∈ toks, ∃ line ∈ lines, FieldsOf line tok := fun toks htoks tok htok =>
  let ⟨line, hline, hl⟩ := mapExcept_mem h toks htoks
  ⟨line, hline, tokensOfLine_fields hl tok htok⟩

theorem zipSents_tokens : ∀ (doc : List (List Token)) (scores : List Scores),
    ∀ x ∈ zipSents doc scores, x.tokens ∈ doc
  | [], _, x, hx => by simp [zipSents] at hx
  | _ :: _, [], x, hx => by simp [zipSents] at hx
  | toks :: ts, s :: ss, x, hx => by
    simp only [zipSents, List.mem_cons] at hx
    rcases hx with rfl | hx
    · exact List.mem_cons_self
    · exact List.mem_cons_of_mem _ (zipSents_tokens ts ss x hx)

/-- after the three readers `mainText` is `printText` of the sentences parsed one by one:
    `parsing_run_eq_map_solo` disposes of the chunking (20 is `max_chunk_size`, which `main` leaves at
    its default) and of `--num-processes` -/
theorem mainText_eq_solo (G : GlueRun.CatGrammar) (o : Opts) {lines tagCats : List Str} {scores : List Scores}
    {roots categories : List Cat} {doc : List (List Token)}
    (hr : rootsOf o.rootCats = .ok roots) (hd : Cli.mapExcept (tokensOfLine o.piped) lines = .ok doc)
    (hc : Cli.mapExcept Cat.parse tagCats = .ok categories) (hnd : categories.Nodup)
    (hlex : ∀ x ∈ zipSents doc scores, LexOK categories x) :
    mainText G o lines tagCats scores =
      match Cli.mapExcept (solo G categories roots o.cfg (some o.maxLength)) (zipSents doc scores) with
      | .error e => .error e
      | .ok results => printText o.format results := by
  unfold mainText
  simp only [hr, hd, hc]
  rw [parsing_run_eq_map_solo G categories roots o.cfg (some o.maxLength) 20 o.procs (zipSents doc scores) hnd hlex]
  simp only [mapExcept_map]
  cases Cli.mapExcept (solo G categories roots o.cfg (some o.maxLength)) (zipSents doc scores) <;> rfl

end Depccg.CliProps
