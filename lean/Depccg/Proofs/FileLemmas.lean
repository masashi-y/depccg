/-
  The loops of the three readers over the lines of a file are instances of one loop (`readLoop`).
  A printed record is an `IdLine` and a `TreeLine`, both left alone by `strip` and without a
  newline inside, so the lines of the printed text (`toStringLines_lines`) are these two per record
  and the loop takes them one by one, handing each tree line to the line-level round trip. The
  Japanese lines carry no header and are cut off the text one by one (`fl_ja_records`).
-/
import Depccg.Props.FileDefs
import Depccg.Proofs.C20Lemmas
import Depccg.Proofs.PrintLemmas
import Depccg.Props.C08
import Depccg.Props.C20

namespace Depccg.FileProps
open Depccg Str Print Read TextProps C20

theorem fl_lstrip_cons {a : Nat} {r : Str} (h : isPySpace a = false) : lstrip (a :: r) = a :: r := by
  simp [lstrip, List.dropWhile, h]

theorem fl_rstrip_snoc {b : Nat} {p : Str} (h : isPySpace b = false) : rstrip (p ++ [b]) = p ++ [b] := by
  simp [rstrip, h]

theorem fl_strip_noop (s : Str) (a b : Nat) (ha : s.head? = some a) (hb : s.getLast? = some b)
    (hna : isPySpace a = false) (hnb : isPySpace b = false) : strip s = s := by
  obtain ⟨r, hr⟩ := List.head?_eq_some_iff.1 ha
  obtain ⟨p, hp⟩ := List.getLast?_eq_some_iff.1 hb
  unfold strip
  rw [hr, fl_lstrip_cons hna, ← hr, hp, fl_rstrip_snoc hnb]

theorem fl_strip_blank (s : Str) (h : ∀ c ∈ s, isPySpace c = true) : strip s = [] := by
  simp [strip, lstrip, rstrip, (span_all h).2]

theorem fl_strip_nil : strip [] = [] := rfl

theorem fl_rstrip_prefix (s : Str) : ∃ q, s = rstrip s ++ q := by
  refine ⟨(s.reverse.takeWhile isPySpace).reverse, ?_⟩
  have := congrArg List.reverse (List.takeWhile_append_dropWhile (p := isPySpace) (l := s.reverse))
  rw [List.reverse_append, List.reverse_reverse] at this
  exact this.symm

theorem fl_rstrip_head (s : Str) (a : Nat) (h : (rstrip s).head? = some a) : s.head? = some a := by
  obtain ⟨q, hq⟩ := fl_rstrip_prefix s
  obtain ⟨r, hr⟩ := List.head?_eq_some_iff.1 h
  rw [hq, hr]
  rfl

theorem fl_strip_head (s : Str) (a : Nat) (h : (strip s).head? = some a) : isPySpace a = false :=
  dropWhile_head s a (fl_rstrip_head _ a h)

theorem fl_strip_last (s : Str) (b : Nat) (h : (strip s).getLast? = some b) : isPySpace b = false := by
  unfold strip rstrip at h
  rw [List.getLast?_reverse] at h
  exact dropWhile_head _ b h

theorem fl_strip_idem (s : Str) : strip (strip s) = strip s := by
  cases hs : strip s with
  | nil => rfl
  | cons x r =>
    have hne : (x :: r) ≠ [] := by simp
    have hl : (x :: r).getLast? = some ((x :: r).getLast hne) := List.getLast?_eq_some_getLast hne
    apply fl_strip_noop (x :: r) x _ rfl hl
    · exact fl_strip_head s x (by rw [hs]; rfl)
    · exact fl_strip_last s _ (by rw [hs]; exact hl)

/-- `parse` reads a tree line, `ids` says whether `ID` lines are recognised, `nameOf` names a tree
    from the index of its line and the last `ID` line -/
def readLoop (parse : Str → Except Err (Tree × List Token)) (ids : Bool)
    (nameOf : Nat → Option Str → Except Err Str) :
    List Str → Nat → Option Str → Except Err (List ReaderResult)
  | [], _, _ => .ok []
  | l :: rest, i, name =>
    if (strip l).isEmpty then readLoop parse ids nameOf rest (i + 1) name
    else if ids && startsWith (strip l) (lit "ID") then
      readLoop parse ids nameOf rest (i + 1) (some (strip l))
    else
      match parse (strip l) with
      | .error e => .error e
      | .ok (tree, toks) =>
        match nameOf i name with
        | .error e => .error e
        | .ok n =>
          match readLoop parse ids nameOf rest (i + 1) name with
          | .error e => .error e
          | .ok rs => .ok ((n, toks, tree) :: rs)

/-- `read_auto`: the name is the last `ID` line, unbound before the first one -/
def autoName (_ : Nat) : Option Str → Except Err Str
  | none => .error .runtime
  | some n => .ok n

/-- `read_ptb`: the last `ID` line, or `ID=<line index>` -/
def ptbName (i : Nat) : Option Str → Except Err Str
  | none => .ok (lit "ID=" ++ Str.ofNat i)
  | some n => .ok n

theorem readAutoLoop_eq (lang : Lang) : ∀ (ls : List Str) (i : Nat) (name : Option Str),
    readAutoLoop lang ls name = readLoop (readAutoLine lang) true autoName ls i name
  | [], _, _ => rfl
  | l :: rest, i, name => by
    simp only [readAutoLoop, readLoop, Bool.true_and, readAutoLoop_eq lang rest (i + 1)]
    cases name <;> rfl

theorem readPtbLoop_eq (lang : Lang) : ∀ (ls : List Str) (i : Nat) (name : Option Str),
    readPtbLoop lang ls i name = readLoop (parsePtb lang) true ptbName ls i name
  | [], _, _ => rfl
  | l :: rest, i, name => by
    simp only [readPtbLoop, readLoop, Bool.true_and, readPtbLoop_eq lang rest (i + 1)]
    cases name <;> rfl

theorem readJaLoop_eq : ∀ (ls : List Str) (i : Nat),
    readJaLoop ls i = readLoop readJaLine false (fun i _ => .ok (Str.ofNat i)) ls i none
  | [], _ => rfl
  | l :: rest, i => by
    simp only [readJaLoop, readLoop, Bool.false_and, Bool.false_eq_true, if_false,
      readJaLoop_eq rest (i + 1)]
    rfl

/-- what the file-level proofs need of a printed tree line (and, in `IdLine`, of a header line):
    `10 ∉ s` makes `s` one line of whatever text it stands in;
    the other three make the loop hand `s` itself to `parse` (`readLoop_tree`), or take it as the name
    (`readLoop_id`): `strip` leaves it alone, it is not empty, and it starts with `ID` or does not -/
def TreeLine (s : Str) : Prop :=
  10 ∉ s ∧ strip s = s ∧ s.isEmpty = false ∧ startsWith s (lit "ID") = false

def IdLine (s : Str) : Prop :=
  10 ∉ s ∧ strip s = s ∧ s.isEmpty = false ∧ startsWith s (lit "ID") = true

section loop
variable {parse : Str → Except Err (Tree × List Token)} {ids : Bool}
  {nameOf : Nat → Option Str → Except Err Str}

theorem readLoop_blank {l : Str} (rest : List Str) (i : Nat) (name : Option Str) (h : strip l = []) :
    readLoop parse ids nameOf (l :: rest) i name = readLoop parse ids nameOf rest (i + 1) name := by
  simp [readLoop, h]

theorem readLoop_id {l : Str} (rest : List Str) (i : Nat) (name : Option Str) (h : IdLine l) :
    readLoop parse true nameOf (l :: rest) i name = readLoop parse true nameOf rest (i + 1) (some l) := by
  obtain ⟨_, hs, hne, hid⟩ := h
  simp [readLoop, hs, hne, hid]

theorem readLoop_tree {l : Str} (rest : List Str) (i : Nat) (name : Option Str) (h : TreeLine l)
    {t' : Tree} {toks : List Token} (hr : parse l = .ok (t', toks)) :
    readLoop parse ids nameOf (l :: rest) i name =
      match nameOf i name with
      | .error e => .error e
      | .ok n =>
        match readLoop parse ids nameOf rest (i + 1) name with
        | .error e => .error e
        | .ok rs => .ok ((n, toks, t') :: rs) := by
  obtain ⟨_, hs, hne, hid⟩ := h
  simp [readLoop, hs, hne, hid, hr]

theorem readLoop_skip_blanks : ∀ (pre rest : List Str) (i : Nat) (name : Option Str),
    (∀ l ∈ pre, strip l = []) →
    readLoop parse ids nameOf (pre ++ rest) i name = readLoop parse ids nameOf rest (i + pre.length) name
  | [], _, _, _, _ => rfl
  | l :: pre, rest, i, name, h => by
    rw [List.cons_append, readLoop_blank _ _ _ (h l (by simp)),
      readLoop_skip_blanks pre rest (i + 1) name (fun q hq => h q (List.mem_cons_of_mem _ hq)),
      List.length_cons, Nat.add_assoc, Nat.add_comm 1]

theorem readLoop_snoc_nil : ∀ (ls : List Str) (i : Nat) (name : Option Str),
    readLoop parse ids nameOf (ls ++ [[]]) i name = readLoop parse ids nameOf ls i name
  | [], i, name => readLoop_blank [] i name fl_strip_nil
  | l :: rest, i, name => by simp only [List.cons_append, readLoop, readLoop_snoc_nil rest]

theorem fl_fileLines_cases (text : Str) :
    fileLines text = splitOn 10 text ∨ fileLines text ++ [[]] = splitOn 10 text := by
  unfold fileLines
  simp only
  split
  · next h =>
    obtain ⟨p, hp⟩ := List.getLast?_eq_some_iff.1 (by simpa using h)
    rw [hp, List.dropLast_concat]
    exact Or.inr rfl
  · exact Or.inl rfl

/-- the readers do not see whether the lines are cut Python's way or by a plain `split('\n')` -/
theorem readLoop_fileLines (text : Str) (i : Nat) (name : Option Str) :
    readLoop parse ids nameOf (fileLines text) i name =
      readLoop parse ids nameOf (splitOn 10 text) i name := by
  rcases fl_fileLines_cases text with h | h
  · rw [h]
  · rw [← h, readLoop_snoc_nil]

end loop

theorem fl_readAutoFile_split (lang : Lang) (text : Str) :
    readAutoFile lang text = readLoop (readAutoLine lang) true autoName (splitOn 10 text) 0 none := by
  rw [readAutoFile, readAutoLoop_eq lang _ 0, readLoop_fileLines]

theorem fl_readPtbFile_split (lang : Lang) (text : Str) :
    readPtbFile lang text = readLoop (parsePtb lang) true ptbName (splitOn 10 text) 0 none := by
  rw [readPtbFile, readPtbLoop_eq, readLoop_fileLines]

theorem fl_readJaFile_split (text : Str) :
    readJaFile text = readLoop readJaLine false (fun i _ => .ok (Str.ofNat i)) (splitOn 10 text) 0 none := by
  rw [readJaFile, readJaLoop_eq, readLoop_fileLines]

theorem fl_ja_step_blank (l : Str) (rest : List Str) (i : Nat) (h : strip l = []) :
    readJaLoop (l :: rest) i = readJaLoop rest (i + 1) := by
  rw [readJaLoop_eq, readJaLoop_eq, readLoop_blank _ _ _ h]

theorem fl_lit_ID : lit "ID" = [73, 68] := by decide
theorem fl_lit_IDeq : lit "ID=" = [73, 68, 61] := by decide

theorem fl_treeLine_of_ends {s : Str} {a b : Nat} (h10 : 10 ∉ s) (ha : s.head? = some a)
    (hb : s.getLast? = some b) (hna : isPySpace a = false) (hnb : isPySpace b = false) (h73 : a ≠ 73) :
    TreeLine s := by
  obtain ⟨r, rfl⟩ := List.head?_eq_some_iff.1 ha
  refine ⟨h10, fl_strip_noop _ a b ha hb hna hnb, rfl, ?_⟩
  rw [fl_lit_ID]
  simp [startsWith, h73]

theorem fl_header_idLine (i : Nat) (sc : Str) (h : ScoreOK sc) : IdLine (header false i sc) := by
  have hh : header false i sc = 73 :: (68 :: 61 :: (Str.ofNat i ++ lit ", log probability=" ++ sc)) := by
    simp [header_false, fl_lit_IDeq]
  obtain ⟨b, hb, hnb⟩ : ∃ b, (header false i sc).getLast? = some b ∧ isPySpace b = false := by
    rw [hh]
    rcases List.eq_nil_or_concat sc with rfl | ⟨q, x, rfl⟩
    · exact ⟨61, by simp [List.getLast?_cons, (by decide : (lit ", log probability=").getLast? = some 61)],
        by decide⟩
    · exact ⟨x, by simp [List.getLast?_cons], h.2 x (by simp)⟩
  refine ⟨?_, fl_strip_noop _ 73 b (by rw [hh]; rfl) hb (by decide) hnb, by rw [hh]; rfl, ?_⟩
  · exact header_no10 i h.1
  · rw [hh, fl_lit_ID]; exact startsWith_append [73, 68] _

theorem fl_autoOf_treeLine (t : Tree) (s : Str) (hc : AllCats CatOK t) (ht : AllToks TokOK t)
    (h : autoOf t = .ok s) : TreeLine s := by
  obtain rfl := C08.autoOf_inv h
  obtain ⟨g, fs, hg⟩ := C08.autoFields_head (lit "POS") t
  obtain ⟨fs', f, hf⟩ := C08.autoFields_last (lit "POS") t
  have h10 : 10 ∉ joinSep 32 (C08.autoFields (lit "POS") t) :=
    (noneOf_joinSep.2 ⟨fun f hf => (C08.autoFields_noneOf hc ht f hf).mono (bad' := [10]) (by decide),
      fun _ => by decide⟩).notMem (by decide)
  refine fl_treeLine_of_ends (a := 40) (b := 41) h10 ?_ ?_ (by decide) (by decide) (by decide)
  · rw [hg]; cases fs <;> rfl
  · rw [hf, joinSep_snoc]; simp

theorem fl_ptbOf_treeLine (t : Tree) (s : Str) (hc : AllCats CatOK t) (ht : AllToks PtbTokOK t)
    (h : ptbOf t = .ok s) : TreeLine s := by
  cases (C20.ptbOf_fields (C20.hasWord_of_ptbTokOK ht)).symm.trans h
  have h10 : 10 ∉ joinSep cSpace (C20.ptbFields t 0) :=
    (noneOf_joinSep.2 ⟨fun x hx => (C20.ptbFields_kind t hc ht 0 x hx).2.mono (bad' := [10]) (by decide),
      fun _ => by decide⟩).notMem (by decide)
  refine fl_treeLine_of_ends (a := 40) (b := 41) ?_ ?_ ?_ (by decide) (by decide) (by decide)
  · simp [C20.lit_root, cRPar, h10]
  · simp [C20.lit_root]
  · simp [cRPar]

theorem jaText_no10 : ∀ (t : Tree), AllToks JaTokOK t → SymOK t → JaNoNL t → 10 ∉ jaText t
  | .leaf c tok _ _, ⟨⟨w, hw, hok⟩, _, _⟩, _, hnl => by
    have h1 : 10 ∉ c.str := hnl.1
    have h2 : 10 ∉ normalize w := fun hm =>
      (TextProps.normalize_mem hm).elim ((TextProps.PlainWord.noneOf hok.1).notMem (by decide)) (by decide)
    simp [jaText, TextProps.getD_of_get? hw, cLBrace, cSpace, cSlash, cRBrace, h1, h2, hnl.2.1, hnl.2.2]
  | .un c _ y ch, htok, hsym, hnl => by
    have h1 : 10 ∉ c.str := hnl.1.1
    have h2 := jaText_no10 ch htok hsym.2 ⟨hnl.1.2, hnl.2⟩
    have h3 : 10 ∉ y := (combinators_chars y hsym.1).notMem (by decide)
    simp [jaText, cLBrace, cSpace, cRBrace, h1, h2, h3]
  | .bin c _ y _ l r, htok, hsym, hnl => by
    have h1 : 10 ∉ c.str := hnl.1.1
    have h2 := jaText_no10 l htok.1 hsym.2.1 ⟨hnl.1.2.1, hnl.2.1⟩
    have h3 := jaText_no10 r htok.2 hsym.2.2 ⟨hnl.1.2.2, hnl.2.2⟩
    have h4 : 10 ∉ y := (combinators_chars y hsym.1).notMem (by decide)
    simp [jaText, cLBrace, cSpace, cRBrace, h1, h2, h3, h4]

theorem fl_jaOf_no10 (t : Tree) (s : Str) (htok : AllToks JaTokOK t) (hsym : SymOK t) (hnl : JaNoNL t)
    (h : jaOf t = .ok s) : 10 ∉ s := by
  cases (jaOf_eq (hasWord_of_jaTokOK htok)).symm.trans h
  exact jaText_no10 t htok hsym hnl

theorem fl_jaOf_treeLine (t : Tree) (s : Str) (htok : AllToks JaTokOK t) (hsym : SymOK t)
    (hnl : JaNoNL t) (h : jaOf t = .ok s) : TreeLine s := by
  have h10 := fl_jaOf_no10 t s htok hsym hnl h
  cases (jaOf_eq (hasWord_of_jaTokOK htok)).symm.trans h
  obtain ⟨r, hr⟩ := jaText_head t
  obtain ⟨p, hp⟩ : ∃ p, jaText t = p ++ [cRBrace] := by cases t <;> exact ⟨_, rfl⟩
  exact fl_treeLine_of_ends (b := 125) h10 (by rw [hr]; rfl) (by rw [hp]; simp [cRBrace]) (by decide)
    (by decide) (by decide)

theorem fl_auto_line (lang : Lang) (t : Tree) (s : Str) (ht : AutoTreeOK lang t) (hs : autoOf t = .ok s) :
    TreeLine s ∧ ∃ t', autoImage lang t = .ok t' ∧ readAutoLine lang s = .ok (t', t'.tokens) :=
  ⟨fl_autoOf_treeLine t s ht.1 ht.2.2 hs, C08.auto_roundtrip lang t s ht.1 ht.2.1 ht.2.2 hs⟩

theorem fl_ptb_line (lang : Lang) (t : Tree) (s : Str) (ht : PtbTreeOK lang t) (hs : ptbOf t = .ok s) :
    TreeLine s ∧ ∃ t', ptbImage lang t = .ok t' ∧ parsePtb lang s = .ok (t', t'.tokens) :=
  ⟨fl_ptbOf_treeLine t s ht.1 ht.2.2 hs, C20.ptb_roundtrip lang t s ht.1 ht.2.1 ht.2.2 hs⟩

/-- AUTO and PTB text, whatever white space follows it (`rest`: for the newline `print` adds): each
    record is its `ID` line and its tree line; `hline` is the round trip of one line -/
theorem fl_id_records {parse : Str → Except Err (Tree × List Token)}
    {nameOf : Nat → Option Str → Except Err Str} (hname : ∀ i n, nameOf i (some n) = .ok n)
    {print : Tree → Except Err Str} {img : Tree → Except Err Tree} {OK : Tree → Prop}
    (hline : ∀ t s, OK t → print t = .ok s →
      TreeLine s ∧ ∃ t', img t = .ok t' ∧ parse s = .ok (t', t'.tokens))
    (rest : Str) (hrest : ∀ l ∈ splitOn 10 rest, strip l = [])
    (recs : List (Nat × (Tree × Str))) (text : Str) (hok : ∀ p ∈ recs, OK p.2.1 ∧ ScoreOK p.2.2)
    (h : catExcept (fun p : Nat × (Tree × Str) =>
      (print p.2.1).map fun s => header false p.1 p.2.2 ++ [10] ++ s ++ [10]) recs = .ok text)
    (i : Nat) (name : Option Str) : ∃ rs,
      mapExcept (fun p : Nat × (Tree × Str) =>
        (img p.2.1).map fun t' => (header false p.1 p.2.2, t'.tokens, t')) recs = .ok rs ∧
      readLoop parse true nameOf (splitOn 10 (text ++ rest)) i name = .ok rs := by
  obtain ⟨out, hf, hl⟩ := CliProps.toStringLines_lines print false recs text h
  rw [hl rest]
  clear h hl
  induction hf generalizing i name with
  | nil =>
    refine ⟨[], rfl, ?_⟩
    simpa [CliProps.docLines, readLoop] using readLoop_skip_blanks (parse := parse) (nameOf := nameOf) _ [] i name hrest
  | @cons p r recs out hpr _ ih =>
    obtain ⟨h1, h2, hs⟩ := hpr
    obtain ⟨hp, hsc⟩ := hok p (by simp)
    obtain ⟨htl, t', him, hread⟩ := hline p.2.1 r.2.2 hp hs
    obtain ⟨rs, hrs, hloop⟩ := ih (fun q hq => hok q (List.mem_cons_of_mem _ hq)) (i + 1 + 1)
      (some (header false p.1 p.2.2))
    refine ⟨(header false p.1 p.2.2, t'.tokens, t') :: rs,
      mapExcept_spec.2 (.cons (by rw [him]; rfl) (mapExcept_spec.1 hrs)), ?_⟩
    rw [CliProps.docLines_cons, h1, h2, CliProps.header_lines p.1 hsc.1, splitOn_of_notMem 10 htl.1]
    simp only [List.cons_append, List.nil_append]
    rw [readLoop_id _ _ _ (fl_header_idLine p.1 p.2.2 hsc), readLoop_tree _ _ _ htl hread, hname, hloop]

theorem fl_auto_records (lang : Lang) (batch : List (List (Tree × Str))) (text : Str)
    (hok : BatchOK (AutoTreeOK lang) batch) (h : toStringLines autoOf false batch = .ok text)
    (rest : Str) (hr : ∀ l ∈ splitOn 10 rest, strip l = []) :
    ∃ rs, fileImage (autoImage lang) batch = .ok rs ∧ readAutoFile lang (text ++ rest) = .ok rs := by
  rw [fl_readAutoFile_split]
  exact fl_id_records (fun _ _ => rfl) (fl_auto_line lang) rest hr (numbered batch) text
    (Print.forall_numbered hok) h 0 none

theorem fl_ptb_records (lang : Lang) (batch : List (List (Tree × Str))) (text : Str)
    (hok : BatchOK (PtbTreeOK lang) batch) (h : toStringLines ptbOf false batch = .ok text)
    (rest : Str) (hr : ∀ l ∈ splitOn 10 rest, strip l = []) :
    ∃ rs, fileImage (ptbImage lang) batch = .ok rs ∧ readPtbFile lang (text ++ rest) = .ok rs := by
  rw [fl_readPtbFile_split]
  exact fl_id_records (fun _ _ => rfl) (fl_ptb_line lang) rest hr (numbered batch) text
    (Print.forall_numbered hok) h 0 none

theorem fl_ja_records : ∀ (trees : List Tree) (text : Str) (i : Nat),
    (∀ t ∈ trees, JaTreeOK t ∧ JaNoNL t) → jaFileLines trees = .ok text →
    ∃ rs, readLoop readJaLine false (fun i _ => .ok (Str.ofNat i)) (splitOn 10 text) i none = .ok rs ∧
      Forall2 JaResultOK (trees.zipIdx i) rs
  | [], text, i, _, h => by
    cases h
    exact ⟨[], readLoop_blank [] i none fl_strip_nil, .nil⟩
  | t :: trees, text, i, hok, h => by
    obtain ⟨rec, r, h1, h2, rfl⟩ := catExcept_cons_inv h
    obtain ⟨s, hs, rfl⟩ := Except.map_ok_inv h1
    obtain ⟨⟨hc, htok, hinfl, hsym⟩, hnl⟩ := hok t (by simp)
    obtain ⟨t', toks, him, hread, hsurf⟩ := C20.ja_roundtrip_partial t s hc htok hinfl hsym hs
    obtain ⟨rs, hloop, hrs⟩ := fl_ja_records trees r (i + 1)
      (fun q hq => hok q (List.mem_cons_of_mem _ hq)) h2
    have htl := fl_jaOf_treeLine t s htok hsym hnl hs
    refine ⟨(Str.ofNat i, toks, t') :: rs, ?_, ?_⟩
    · have e : s ++ [10] ++ r = s ++ 10 :: r := by simp
      rw [e, Str.splitOn_sep 10 htl.1, readLoop_tree _ _ _ htl hread, hloop]
    · rw [List.zipIdx_cons]
      exact .cons ⟨rfl, t', him, rfl, hsurf⟩ hrs

theorem fl_jaJoined_lines {trees : List Tree} {lines : List Str}
    (h : Forall2 (fun t s => jaOf t = .ok s) trees lines) :
    jaFileLines trees = .ok (frontText 10 lines) := by
  induction h with
  | nil => rfl
  | cons ht _ ih => exact catExcept_cons_ok (by rw [ht]; rfl) ih

theorem fl_ja_file (trees : List Tree) (text : Str)
    (hok : ∀ t ∈ trees, JaTreeOK t ∧ JaNoNL t)
    (h : jaFileLines trees = .ok text ∨ jaFileJoined trees = .ok text) :
    ∃ rs, readJaFile text = .ok rs ∧ Forall2 JaResultOK trees.zipIdx rs := by
  rw [fl_readJaFile_split]
  rcases h with h | h
  · exact fl_ja_records trees text 0 hok h
  · obtain ⟨lines, hl, rfl⟩ := Except.map_ok_inv h
    have hf := mapExcept_spec.1 hl
    by_cases hne : lines = []
    · subst hne
      cases hf
      exact ⟨[], readLoop_blank [] 0 none fl_strip_nil, .nil⟩
    · have h' := fl_jaJoined_lines hf
      rw [frontText_joinSep 10 hne] at h'
      obtain ⟨rs, hloop, hrs⟩ := fl_ja_records trees _ 0 hok h'
      have e : joinSep 10 lines ++ [10] = joinSep 10 lines ++ 10 :: [] := rfl
      rw [e, splitOn_append_sep, splitOn_nil, readLoop_snoc_nil] at hloop
      exact ⟨rs, hloop, hrs⟩

theorem fl_first_tree_line {parse : Str → Except Err (Tree × List Token)} {ids : Bool}
    {nameOf : Nat → Option Str → Except Err Str} {pre rest : List Str} {s post : Str}
    (hpre : ∀ l ∈ pre, 10 ∉ l ∧ ∀ c ∈ l, isPySpace c = true) (htl : TreeLine s)
    (hsp : splitOn 10 (s ++ post) = s :: rest) {t' : Tree} {toks : List Token}
    (hread : parse s = .ok (t', toks)) :
    readLoop parse ids nameOf (splitOn 10 (blankFront pre ++ s ++ post)) 0 none =
      match nameOf pre.length none with
      | .error e => .error e
      | .ok n =>
        match readLoop parse ids nameOf rest (pre.length + 1) none with
        | .error e => .error e
        | .ok rs => .ok ((n, toks, t') :: rs) := by
  rw [List.append_assoc, show blankFront pre = frontText 10 pre from rfl,
    splitOn_frontText 10 pre _ (fun l hl => (hpre l hl).1), hsp,
    readLoop_skip_blanks pre _ _ _ (fun l hl => fl_strip_blank l (hpre l hl).2),
    readLoop_tree _ _ _ htl hread, Nat.zero_add]

theorem fl_auto_needs_id (lang : Lang) (pre : List Str) (t : Tree) (s post : Str)
    (hpre : ∀ l ∈ pre, 10 ∉ l ∧ ∀ c ∈ l, isPySpace c = true)
    (ht : AutoTreeOK lang t) (hs : autoOf t = .ok s)
    (hpost : post = [] ∨ post.head? = some 10) :
    readAutoFile lang (blankFront pre ++ s ++ post) = .error .runtime := by
  obtain ⟨htl, t', _, hread⟩ := fl_auto_line lang t s ht hs
  obtain ⟨rest, hsp⟩ : ∃ rest, splitOn 10 (s ++ post) = s :: rest := by
    rcases hpost with rfl | hp
    · exact ⟨[], by rw [List.append_nil, Str.splitOn_of_notMem 10 htl.1]⟩
    · obtain ⟨r, rfl⟩ := List.head?_eq_some_iff.1 hp
      exact ⟨_, Str.splitOn_sep 10 htl.1⟩
  rw [fl_readAutoFile_split, fl_first_tree_line hpre htl hsp hread]
  rfl

theorem fl_ptb_default_name (lang : Lang) (pre : List Str) (t : Tree) (s post : Str)
    (hpre : ∀ l ∈ pre, 10 ∉ l ∧ ∀ c ∈ l, isPySpace c = true)
    (ht : PtbTreeOK lang t) (hs : ptbOf t = .ok s)
    (hpost : post = [] ∨ post = [10]) :
    ∃ t', ptbImage lang t = .ok t' ∧
      readPtbFile lang (blankFront pre ++ s ++ post) =
        .ok [(lit "ID=" ++ Str.ofNat pre.length, t'.tokens, t')] := by
  obtain ⟨htl, t', him, hread⟩ := fl_ptb_line lang t s ht hs
  refine ⟨t', him, ?_⟩
  rw [fl_readPtbFile_split]
  rcases hpost with rfl | rfl
  · rw [fl_first_tree_line hpre htl (by rw [List.append_nil, Str.splitOn_of_notMem 10 htl.1]) hread]
    rfl
  · rw [fl_first_tree_line hpre htl (Str.splitOn_sep 10 (rest := []) htl.1) hread]
    rfl

theorem fl_scoreOK_of_plain (sc : Str) (hp : PlainWord sc)
    (hl : ∀ c, sc.getLast? = some c → isPySpace c = false) : ScoreOK sc :=
  ⟨(TextProps.PlainWord.noneOf hp).notMem (by decide), hl⟩

theorem fl_forall2_length {α β : Type} {R : α → β → Prop} :
    ∀ {xs : List α} {ys : List β}, Forall2 R xs ys → xs.length = ys.length :=
  Forall2.length_eq

theorem fl_fileImage_pointwise (img : Tree → Except Err Tree) (batch : List (List (Tree × Str)))
    (rs : List ReaderResult) (h : fileImage img batch = .ok rs) :
    Forall2 (fun (p : Nat × (Tree × Str)) (r : ReaderResult) =>
        r.1 = header false p.1 p.2.2 ∧ img p.2.1 = .ok r.2.2 ∧ r.2.1 = r.2.2.tokens)
      (numbered batch) rs := by
  refine (mapExcept_spec.1 h).imp ?_
  intro p _ r hr
  obtain ⟨t', ht', rfl⟩ := Except.map_ok_inv hr
  exact ⟨rfl, ht', rfl⟩

end Depccg.FileProps
