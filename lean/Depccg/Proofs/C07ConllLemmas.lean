/-
  Lemmas for C07 / conll. A row is rendered as a line of ten columns; a non-empty table of rows whose
  free columns hold no TAB and no newline reads back to the rows. On a tree whose tokens have a word
  the printer writes the table of the view rows (`cn_conllOf_eq`), whose head column is the top-down
  `rawHeads` of Proofs/C07Lemmas.lean; the rows of the view are made of cells exactly under the
  hypotheses of the decoder statement.
-/
import Depccg.Props.C07ConllDefs
import Depccg.Proofs.C07Lemmas

namespace Depccg.C07
open Depccg Str Print Read TextProps
open Depccg.C20 (noneOf noneOf_append noneOf_cons noneOf_joinSep)

/-- a cell is a text without TAB and newline: the closure lemmas of `noneOf` are those of `Cell` -/
theorem cell_iff_noneOf {s : Str} : Cell s ↔ noneOf [9, 10] s :=
  ⟨fun h c hc hb => by
    rcases List.mem_cons.1 hb with rfl | hb
    · exact h.1 hc
    · exact h.2 (List.mem_singleton.1 hb ▸ hc),
   fun h => ⟨h.notMem (by decide), h.notMem (by decide)⟩⟩

theorem cell_append {a b : Str} : Cell (a ++ b) ↔ Cell a ∧ Cell b := by
  simp only [cell_iff_noneOf, noneOf_append]

theorem cell_sp {parts : List Str} : Cell (sp parts) ↔ ∀ p ∈ parts, Cell p := by
  simp only [cell_iff_noneOf, sp, noneOf_joinSep]
  exact ⟨And.left, fun h => ⟨h, fun _ => by decide⟩⟩

theorem cell_closers : ∀ k, Cell (closers k)
  | 0 => ⟨nofun, nofun⟩
  | k + 1 => cell_append.2 ⟨⟨by decide, by decide⟩, cell_closers k⟩

theorem cell_ofNat (n : Nat) : Cell (Str.ofNat n) :=
  cell_iff_noneOf.2 (C20.noneOf_ofNat (by decide) n)

theorem cell_underscore : Cell (lit "_") := ⟨by decide, by decide⟩

theorem cell_denormalize {w : Str} : Cell (denormalize w) ↔ Cell w := by
  rw [cell_iff_noneOf, cell_iff_noneOf, TextProps.noneOf_denormalize (by decide)]

theorem cell_getD {tok : Token} {k d : Str} (hd : Cell d) :
    Cell (Token.getD tok k d) ↔ ∀ v, Token.get? tok k = some v → Cell v := by
  simp only [Token.getD, Token.get?]
  cases Dict.get? tok k with
  | none => exact ⟨fun _ _ h => (nomatch h), fun _ => hd⟩
  | some v => exact ⟨fun h _ e => Option.some.inj e ▸ h, fun h => h v rfl⟩

def cols (r : ConllRow) : List Str :=
  [Str.ofNat r.id, r.word, r.lemma, r.pos, r.pos2, lit "_", Str.ofNat r.head, r.cat, lit "_", r.fragment]

def render (r : ConllRow) : Str := tab (cols r)

def RowOK (r : ConllRow) : Prop :=
  Cell r.word ∧ Cell r.lemma ∧ Cell r.pos ∧ Cell r.pos2 ∧ Cell r.cat ∧ Cell r.fragment

theorem rowOK_iff {r : ConllRow} : RowOK r ↔ ∀ f ∈ cols r, Cell f := by
  simp only [cols, List.forall_mem_cons, cell_ofNat, cell_underscore, true_and, RowOK]
  exact ⟨fun ⟨h1, h2, h3, h4, h5, h6⟩ => ⟨h1, h2, h3, h4, h5, h6, nofun⟩,
    fun ⟨h1, h2, h3, h4, h5, h6, _⟩ => ⟨h1, h2, h3, h4, h5, h6⟩⟩

theorem splitOn_render {r : ConllRow} (h : RowOK r) : splitOn 9 (render r) = cols r :=
  splitOn_joinSep 9 _ (List.cons_ne_nil _ _) fun f hf => (rowOK_iff.1 h f hf).1

theorem splitOn_table {rows : List ConllRow} (hne : rows ≠ []) (h : ∀ r ∈ rows, RowOK r) :
    splitOn 10 (joinSep 10 (rows.map render)) = rows.map render := by
  refine splitOn_joinSep 10 _ (by simpa using hne) fun f hf hm => ?_
  obtain ⟨r, hr, rfl⟩ := List.mem_map.1 hf
  rcases mem_joinSep.1 hm with ⟨p, hp, hc⟩ | ⟨e, _⟩
  · exact (rowOK_iff.1 (h r hr) p hp).2 hc
  · cases e

theorem cn_decRow_render {r : ConllRow} (h : RowOK r) : decConllRow (render r) = some r := by
  have hu : conllBlankCol (lit "_") = true := by decide
  simp only [decConllRow, splitOn_render h, cols, hu, cn_conllNat_ofNat, Bool.and_self, if_true]

theorem cn_decRows_render : ∀ (rows : List ConllRow), (∀ r ∈ rows, RowOK r) →
    decConllRows (rows.map render) = some rows
  | [], _ => rfl
  | r :: rs, h => by
    simp only [List.map_cons, decConllRows, cn_decRow_render (h r (by simp)),
      cn_decRows_render rs (fun r' hr' => h r' (List.mem_cons_of_mem _ hr'))]

theorem cn_decConll_render (rows : List ConllRow) (hne : rows ≠ []) (h : ∀ r ∈ rows, RowOK r) :
    decConll (joinSep 10 (rows.map render)) = some rows := by
  rw [decConll, splitOn_table hne h]
  exact cn_decRows_render rows h

theorem lastColumns_render (rows : List ConllRow) (hne : rows ≠ []) (h : ∀ r ∈ rows, RowOK r) :
    lastColumns (joinSep 10 (rows.map render)) = rows.map (·.fragment) := by
  rw [lastColumns, splitOn_table hne h, List.map_map]
  exact List.map_congr_left fun r hr => by rw [Function.comp, splitOn_render (h r hr)]; rfl

/-- the head column as printed, `None ↦ 0`, word `j ↦ j + 1`: the inline `match` of `Print.conllRec` and of
    `ConllViewStatement` -/
def depNum : Option Nat → Nat
  | some h => h + 1
  | none => 0

theorem cn_viewRows_ids : ∀ (t : Tree) (off up : Nat) (pre : List Str) (k : Nat),
    (viewRows t off up pre k).map (·.id) = List.range' (off + 1) t.numLeaves
  | .leaf .., off, _, _, _ => rfl
  | .un _ _ _ ch, off, up, pre, k => cn_viewRows_ids ch off up _ _
  | .bin _ _ _ h l r, off, up, pre, k => by
    simp only [viewRows, List.map_append, cn_viewRows_ids, Tree.numLeaves, ← List.range'_append_1]
    rw [Nat.add_right_comm]

theorem cn_viewRows_length (t : Tree) (off up : Nat) (pre : List Str) (k : Nat) :
    (viewRows t off up pre k).length = t.numLeaves := by
  simpa using congrArg List.length (cn_viewRows_ids t off up pre k)

theorem cn_viewRows_ne_nil (t : Tree) (off up : Nat) (pre : List Str) (k : Nat) :
    viewRows t off up pre k ≠ [] :=
  List.ne_nil_of_length_pos (cn_viewRows_length t off up pre k ▸ numLeaves_pos t)

/-- at the root: `viewConll t` is `viewRows t 0 0 [] 0` -/
theorem cn_viewConll_ids (t : Tree) : (viewConll t).map (·.id) = List.range' 1 t.numLeaves :=
  cn_viewRows_ids t 0 0 [] 0

theorem cn_viewConll_length (t : Tree) : (viewConll t).length = t.numLeaves :=
  cn_viewRows_length t 0 0 [] 0

theorem cn_viewConll_ne_nil (t : Tree) : viewConll t ≠ [] :=
  cn_viewRows_ne_nil t 0 0 [] 0

theorem cn_numberedFrom_iff : ∀ (rows : List ConllRow) (s : Nat),
    conllNumberedFrom s rows = true ↔ rows.map (·.id) = List.range' s rows.length
  | [], _ => by simp [conllNumberedFrom]
  | r :: rs, s => by
    simp [conllNumberedFrom, cn_numberedFrom_iff rs (s + 1), List.range'_succ]

/-- the rows of a binary node, with the head numbers in the form in which they are handed down -/
theorem cn_viewRows_bin (c : Cat) (a b : Str) (h : Bool) (l r : Tree) (off : Nat) (u : Option Nat)
    (pre : List Str) (k : Nat) :
    viewRows (.bin c a b h l r) off (depNum u) pre k =
      viewRows l off (depNum (if h then u else some (headIdx r (off + l.numLeaves))))
        (pre ++ [binOpener c h]) 0 ++
      viewRows r (off + l.numLeaves) (depNum (if h then some (headIdx l off) else u)) [] (k + 1) := by
  cases h <;> rfl

theorem cn_viewRows_heads : ∀ (t : Tree) (off : Nat) (u : Option Nat) (pre : List Str) (k : Nat),
    (viewRows t off (depNum u) pre k).map (·.head) = (rawHeads t off u).map depNum
  | .leaf .., off, _, _, _ => rfl
  | .un _ _ _ ch, off, u, pre, k => cn_viewRows_heads ch off u _ _
  | .bin _ _ _ h l r, off, u, pre, k => by
    rw [cn_viewRows_bin, rawHeads, List.map_append, List.map_append, cn_viewRows_heads, cn_viewRows_heads]

theorem cn_viewConll_heads (t : Tree) :
    (viewConll t).map (·.head) = (resolveDeps t []).2.map depNum := by
  rw [resolveDeps_eq]
  exact cn_viewRows_heads t 0 none [] 0

theorem cn_tab_last (a b c d e f g h i x y : Str) :
    tab [a, b, c, d, e, f, g, h, i, x] ++ y = tab [a, b, c, d, e, f, g, h, i, x ++ y] := by
  simp only [tab, joinSep, List.append_assoc, List.cons_append]

theorem cn_closers_succ (k : Nat) : closers (k + 1) = lit " )" ++ closers k := rfl

/-- `∀ k`: the ` )`s that the callers append after `out` belong to the fragment of its last row, so
    the equation is stated with `k` of them still to come (a unary node and the right child of a
    binary node ask for `k + 1`, the left child for 0) -/
theorem cn_conllRec_eq (deps : List (Option Nat)) : ∀ (t : Tree) (st : ConllSt) (u : Option Nat)
    (A B : List (Option Nat)), AllToks C19.HasWord t →
    deps = A ++ rawHeads t A.length u ++ B → st.counter = A.length + 1 →
    ∃ out, conllRec deps t st = .ok (out, { stack := [], counter := st.counter + t.numLeaves }) ∧
      ∀ k, out ++ closers k = joinSep 10 ((viewRows t A.length (depNum u) st.stack k).map render)
  | .leaf c tok a b, st, u, A, B, ⟨w, hw⟩, hd, hc => by
    -- `A` is the column of the words before the subtree: the printer's counter points at `u`
    have hidx : deps[st.counter - 1]? = some u := by
      rw [hd, hc]
      simp [rawHeads]
    simp only [conllRec, TextProps.get_of_get? hw, hidx]
    refine ⟨_, rfl, fun k => ?_⟩
    rw [cn_tab_last]
    simp only [viewRows, List.map_cons, List.map_nil, joinSep, render, cols, leafFrag,
      TextProps.getD_of_get? hw, hc]
    cases u <;> rfl
  | .un c a b ch, st, u, A, B, h, hd, hc => by
    obtain ⟨o, he, hk⟩ := cn_conllRec_eq deps ch { st with stack := st.stack ++ [unOpener c] } u A B h hd hc
    simp only [unOpener] at he
    refine ⟨o ++ lit " )", by simp only [conllRec, he, Tree.numLeaves], fun k => ?_⟩
    rw [List.append_assoc, ← cn_closers_succ, hk]
    rfl
  | .bin c a b hh l r, st, u, A, B, h, hd, hc => by
    simp only [rawHeads] at hd
    obtain ⟨o1, he1, hk1⟩ := cn_conllRec_eq deps l { st with stack := st.stack ++ [binOpener c hh] }
      (if hh then u else some (headIdx r (A.length + l.numLeaves))) A
      (rawHeads r (A.length + l.numLeaves) (if hh then some (headIdx l A.length) else u) ++ B) h.1
      (by rw [hd]; simp only [List.append_assoc]) hc
    obtain ⟨o2, he2, hk2⟩ := cn_conllRec_eq deps r { stack := [], counter := st.counter + l.numLeaves }
      (if hh then some (headIdx l A.length) else u)
      (A ++ rawHeads l A.length (if hh then u else some (headIdx r (A.length + l.numLeaves)))) B h.2
      (by rw [hd]; simp only [List.length_append, rawHeads_length, List.append_assoc])
      (by simp only [List.length_append, rawHeads_length, hc]; omega)
    simp only [binOpener] at he1
    refine ⟨o1 ++ 10 :: o2 ++ lit " )", by simp only [conllRec, he1, he2, Tree.numLeaves, Nat.add_assoc],
      fun k => ?_⟩
    have h1 := hk1 0
    have h2 := hk2 (k + 1)
    simp only [closers, List.append_nil] at h1
    simp only [List.length_append, rawHeads_length] at h2
    rw [cn_viewRows_bin, List.map_append,
      joinSep_append 10 (by simpa using cn_viewRows_ne_nil _ _ _ _ _)
        (by simpa using cn_viewRows_ne_nil _ _ _ _ _), ← h1, ← h2, cn_closers_succ]
    simp only [List.append_assoc, List.cons_append]

theorem cn_conllOf_eq (t : Tree) (h : AllToks C19.HasWord t) :
    conllOf t = .ok (joinSep 10 ((viewConll t).map render)) := by
  obtain ⟨out, he, hk⟩ := cn_conllRec_eq (resolveDeps t []).2 t { stack := [], counter := 1 } none [] [] h
    (by rw [resolveDeps_eq]; simp) rfl
  simp only [conllOf, he]
  exact congrArg _ ((List.append_nil out).symm.trans (hk 0))

theorem cn_conllRec_hasWord (deps : List (Option Nat)) : ∀ (t : Tree) (st : ConllSt) (p : Str × ConllSt),
    conllRec deps t st = .ok p → AllToks C19.HasWord t
  | .leaf c tok _ _, st, p, h => by
    simp only [conllRec] at h
    split at h
    · cases h
    · next w hw => exact ⟨w, TextProps.get?_of_get hw⟩
  | .un c _ _ ch, st, p, h => by
    simp only [conllRec] at h
    split at h
    · cases h
    · next he => exact cn_conllRec_hasWord deps ch _ _ he
  | .bin c _ _ hd l r, st, p, h => by
    simp only [conllRec] at h
    split at h
    · cases h
    · next he1 =>
      split at h
      · cases h
      · next he2 => exact ⟨cn_conllRec_hasWord deps l _ _ he1, cn_conllRec_hasWord deps r _ _ he2⟩

theorem cn_conllOf_render (t : Tree) (text : Str) (h : conllOf t = .ok text) :
    text = joinSep 10 ((viewConll t).map render) := by
  have hw : AllToks C19.HasWord t := by
    simp only [conllOf] at h
    split at h
    · cases h
    · next he => exact cn_conllRec_hasWord _ t _ _ he
  exact (Except.ok.inj ((cn_conllOf_eq t hw).symm.trans h)).symm

theorem cell_leafFrag {c : Cat} {tok : Token} :
    Cell (leafFrag c tok) ↔ Cell c.str ∧ Cell (Token.getD tok (lit "pos") (lit "_")) ∧
      Cell (denormalize (Token.getD tok (lit "word") [])) := by
  simp only [leafFrag, cell_sp, List.forall_mem_cons, cell_append]
  exact ⟨fun h => ⟨h.2.1, h.2.2.1, h.2.2.2.2.1⟩,
    fun ⟨hc, hp, hw⟩ => ⟨⟨by decide, by decide⟩, hc, hp, hp, hw, ⟨hc, by decide, by decide⟩, nofun⟩⟩

theorem cell_unOpener {c : Cat} : Cell (unOpener c) ↔ Cell c.str := by
  simp only [unOpener, cell_sp, List.forall_mem_cons]
  exact ⟨fun h => h.2.1, fun h => ⟨⟨by decide, by decide⟩, h, ⟨by decide, by decide⟩, ⟨by decide, by decide⟩, nofun⟩⟩

theorem cell_binOpener {c : Cat} {h : Bool} : Cell (binOpener c h) ↔ Cell c.str := by
  simp only [binOpener, cell_sp, List.forall_mem_cons]
  exact ⟨fun h => h.2.1,
    fun hc => ⟨⟨by decide, by decide⟩, hc, by cases h <;> exact ⟨by decide, by decide⟩, ⟨by decide, by decide⟩, nofun⟩⟩

theorem tokCells_iff {tok : Token} : TokCells tok ↔
    Cell (denormalize (Token.getD tok (lit "word") [])) ∧ Cell (Token.getD tok (lit "lemma") (lit "_")) ∧
      Cell (Token.getD tok (lit "pos") (lit "_")) := by
  simp only [TokCells, List.forall_mem_cons, cell_denormalize, cell_getD cell_underscore,
    cell_getD (d := []) ⟨nofun, nofun⟩]
  exact ⟨fun h => ⟨h.1, h.2.1, h.2.2.1⟩, fun h => ⟨h.1, h.2.1, h.2.2, nofun⟩⟩

theorem cn_viewRows_ok_iff : ∀ (t : Tree) (off up : Nat) (pre : List Str) (k : Nat),
    (∀ r ∈ viewRows t off up pre k, RowOK r) ↔
      (∀ e ∈ pre, Cell e) ∧ AllCats (fun c => Cell c.str) t ∧ AllToks TokCells t
  | .leaf c tok _ _, off, up, pre, k => by
    simp only [viewRows, List.forall_mem_singleton, RowOK, cell_append, cell_sp, List.forall_mem_append,
      cell_leafFrag, cell_closers, and_true, AllCats, AllToks, tokCells_iff]
    exact ⟨fun ⟨hw, hl, hp, _, hc, hpre, _⟩ => ⟨hpre, hc, hw, hl, hp⟩,
      fun ⟨hpre, hc, hw, hl, hp⟩ => ⟨hw, hl, hp, hp, hc, hpre, hc, hp, hw⟩⟩
  | .un c _ _ ch, off, up, pre, k => by
    simp only [viewRows, cn_viewRows_ok_iff ch, List.forall_mem_append, List.forall_mem_singleton,
      cell_unOpener, AllCats, AllToks, and_assoc]
  | .bin c _ _ h l r, off, up, pre, k => by
    simp only [viewRows, List.forall_mem_append, cn_viewRows_ok_iff l, cn_viewRows_ok_iff r,
      List.forall_mem_singleton, cell_binOpener, AllCats, AllToks]
    exact ⟨fun ⟨⟨⟨hpre, hc⟩, hl, htl⟩, _, hr, htr⟩ => ⟨hpre, ⟨hc, hl, hr⟩, htl, htr⟩,
      fun ⟨hpre, ⟨hc, hl, hr⟩, htl, htr⟩ => ⟨⟨⟨hpre, hc⟩, hl, htl⟩, nofun, hr, htr⟩⟩

theorem cn_viewConll_ok_iff (t : Tree) :
    (∀ r ∈ viewConll t, RowOK r) ↔ AllCats (fun c => Cell c.str) t ∧ AllToks TokCells t :=
  (cn_viewRows_ok_iff t 0 0 [] 0).trans ⟨fun h => h.2, fun h => ⟨nofun, h⟩⟩

theorem cn_viewConll_roots (t : Tree) :
    ((viewConll t).filter fun r => r.head == 0).length = roots (resolveDeps t []).2 := by
  have h1 : ((viewConll t).filter fun r => r.head == 0).length =
      (((viewConll t).map (·.head)).filter (· == 0)).length := by
    rw [List.filter_map, List.length_map]
    rfl
  rw [h1, cn_viewConll_heads, List.filter_map, List.length_map]
  exact congrArg _ (List.filter_congr fun d _ => by cases d <;> rfl)

theorem cn_viewConll_row (t : Tree) (i : Nat) (r : ConllRow) (h : (viewConll t)[i]? = some r) :
    i < t.numLeaves ∧ r.id = i + 1 ∧ ((resolveDeps t []).2[i]?).map depNum = some r.head := by
  have hlt : i < t.numLeaves := by
    have := (List.getElem?_eq_some_iff.1 h).1
    rwa [cn_viewConll_length] at this
  have h1 : ((viewConll t).map (·.id))[i]? = (List.range' 1 t.numLeaves)[i]? :=
    congrArg (·[i]?) (cn_viewConll_ids t)
  have h2 := congrArg (·[i]?) (cn_viewConll_heads t)
  simp only [List.getElem?_map, h, Option.map_some, List.getElem?_range' hlt, Option.some.injEq] at h1 h2
  exact ⟨hlt, by omega, h2.symm⟩

theorem lit_rpar : lit ")" = [41] := by decide
theorem lit_sprpar : lit " )" = [32, 41] := by decide

theorem cn_frags_spec : ∀ (t : Tree) (off up : Nat) (pre : List Str) (k : Nat),
    sp ((viewRows t off up pre k).map (·.fragment)) = frontText 32 pre ++ autoU t ++ closers k
  | .leaf c tok _ _, off, up, pre, k => by
    simp only [viewRows, List.map_cons, List.map_nil, C08.sp_single, autoU]
    rw [sp, cSpace, joinSep_snoc]
  | .un c _ _ ch, off, up, pre, k => by
    rw [viewRows, cn_frags_spec ch off up _ _, frontText_snoc, autoU, cn_closers_succ]
    simp [sp, joinSep, cSpace, lit_sprpar, lit_rpar]
  | .bin c _ _ h l r, off, up, pre, k => by
    rw [viewRows, List.map_append, sp, cSpace,
      Str.joinSep_append 32 (by simpa using cn_viewRows_ne_nil _ _ _ _ _)
        (by simpa using cn_viewRows_ne_nil _ _ _ _ _)]
    have hl := cn_frags_spec l off (if h then up else headIdx r (off + l.numLeaves) + 1)
      (pre ++ [binOpener c h]) 0
    have hr := cn_frags_spec r (off + l.numLeaves) (if h then headIdx l off + 1 else up) [] (k + 1)
    simp only [sp, cSpace] at hl hr
    rw [hl, hr, frontText_snoc, autoU, cn_closers_succ]
    simp [sp, joinSep, cSpace, lit_sprpar, lit_rpar, closers, frontText]

theorem cn_viewConll_frags (t : Tree) : sp ((viewConll t).map (·.fragment)) = autoU t := by
  simpa [closers, frontText, viewConll] using cn_frags_spec t 0 0 [] 0

theorem autoU_fields : ∀ t : Tree, autoU t = joinSep 32 (C08.autoFields (lit "_") t)
  | .leaf c tok _ _ => rfl
  | .un c _ _ ch => by
    rw [autoU, autoU_fields ch, C08.autoFields]
    exact (joinSep_mid 32 [] [lit "(<T", c.str, lit "0", lit "1>"] _ _ (by simp)).trans
      (joinSep_mid 32 [lit "(<T", c.str, lit "0", lit "1>"] _ (lit ")") [] (C08.autoFields_ne_nil _ ch))
  | .bin c _ _ h l r => by
    rw [autoU, autoU_fields l, autoU_fields r, C08.autoFields]
    exact ((joinSep_mid 32 [] [lit "(<T", c.str, (if h then lit "0" else lit "1"), lit "2>"] _ _ (by simp)).trans
      (joinSep_mid 32 [lit "(<T", c.str, (if h then lit "0" else lit "1"), lit "2>"] _ _ _
        (C08.autoFields_ne_nil _ l))).trans
      (joinSep_mid 32 ([lit "(<T", c.str, (if h then lit "0" else lit "1"), lit "2>"] ++ C08.autoFields _ l) _
        (lit ")") [] (C08.autoFields_ne_nil _ r))

theorem cn_viewConll_frags_autoOf (t : Tree) (s : Str)
    (hp : AllToks (fun tok => ∃ p, Token.get? tok (lit "pos") = some p) t) (hs : autoOf t = .ok s) :
    sp ((viewConll t).map (·.fragment)) = s := by
  rw [cn_viewConll_frags, autoU_fields, C08.autoFields_default _ (lit "POS") hp]
  exact (C08.autoOf_inv hs).symm

/-- a sufficient, decidable form of `TokCells`: every attribute value is a cell -/
theorem cn_tokCells_of_all {tok : Token} (h : ∀ kv ∈ tok, Cell kv.2) : TokCells tok :=
  fun _ _ _ hv => h _ (C06.mem_of_get? hv)

theorem cn_tokCells_of_tokOK {t : Tree} (h : AllToks TokOK t) : AllToks TokCells t :=
  h.mono fun _ h => cn_tokCells_of_all fun kv hkv => cell_iff_noneOf.2 ((TextProps.tokOK_noneOf h kv hkv).mono (by decide))

theorem cn_cell_of_catOK {t : Tree} (h : AllCats CatOK t) : AllCats (fun c => Cell c.str) t :=
  h.mono fun _ h => cell_iff_noneOf.2 ((C08.catOK_noneOf h).mono (by decide))

theorem lastColumns_conllOf (t : Tree) (text : Str) (hc : AllCats (fun c => Cell c.str) t)
    (ht : AllToks TokCells t) (h : conllOf t = .ok text) :
    lastColumns text = (viewConll t).map (·.fragment) := by
  rw [cn_conllOf_render t text h]
  exact lastColumns_render _ (cn_viewConll_ne_nil t) ((cn_viewConll_ok_iff t).2 ⟨hc, ht⟩)

theorem cn_parts_free (sep : Nat) (parts : List Str) (hne : parts ≠ [])
    (h : (splitOn sep (joinSep sep parts)).length = parts.length) : ∀ p ∈ parts, sep ∉ p := by
  rw [splitOn_length] at h
  have h2 := count_joinSep sep parts hne
  intro p hp
  have := List.sum_eq_zero_iff_forall_eq_nat.1 (by omega : (parts.map (·.count sep)).sum = 0) (p.count sep)
    (List.mem_map.2 ⟨p, hp, rfl⟩)
  exact List.count_eq_zero.1 this

theorem decConllRows_cons {l : Str} {ls : List Str} {rows : List ConllRow}
    (h : decConllRows (l :: ls) = some rows) :
    ∃ r rs, decConllRow l = some r ∧ decConllRows ls = some rs ∧ rows = r :: rs := by
  simp only [decConllRows] at h
  split at h
  · next r rs h1 h2 => exact ⟨r, rs, h1, h2, (Option.some.inj h).symm⟩
  · cases h

theorem cn_decRows_length : ∀ (ls : List Str) (rows : List ConllRow),
    decConllRows ls = some rows → ls.length = rows.length ∧ ∀ l ∈ ls, ∃ r, decConllRow l = some r
  | [], rows, h => by
    cases h
    exact ⟨rfl, nofun⟩
  | l :: ls, rows, h => by
    obtain ⟨r, rs, h1, h2, rfl⟩ := decConllRows_cons h
    obtain ⟨ih1, ih2⟩ := cn_decRows_length ls rs h2
    exact ⟨by simp [ih1], List.forall_mem_cons.2 ⟨⟨r, h1⟩, ih2⟩⟩

theorem decConllRow_cols {l : Str} {r : ConllRow} (h : decConllRow l = some r) :
    ∃ a hd, conllNat a = some r.id ∧ conllNat hd = some r.head ∧
      splitOn 9 l = [a, r.word, r.lemma, r.pos, r.pos2, lit "_", hd, r.cat, lit "_", r.fragment] := by
  unfold decConllRow at h
  split at h
  · next a _ _ _ _ u1 hd _ u2 _ heq =>
    split at h
    · next hb =>
      split at h
      · next hi hj =>
        cases h
        simp only [Bool.and_eq_true, conllBlankCol, beq_iff_eq] at hb
        exact ⟨a, hd, hi, hj, by rw [heq, hb.1, hb.2]; rfl⟩
      · cases h
    · cases h
  · cases h

theorem cn_rows_ok_of_dec (rows rows' : List ConllRow) (hne : rows ≠ [])
    (hlen : rows'.length = rows.length)
    (h : decConll (joinSep 10 (rows.map render)) = some rows') : ∀ r ∈ rows, RowOK r := by
  unfold decConll at h
  obtain ⟨h1, _⟩ := cn_decRows_length _ _ h
  have hne' : rows.map render ≠ [] := by simpa using hne
  have hfree := cn_parts_free 10 (rows.map render) hne' (by rw [h1, hlen, List.length_map])
  rw [splitOn_joinSep 10 _ hne' hfree] at h
  obtain ⟨_, h2⟩ := cn_decRows_length _ _ h
  intro r hr
  have hm : render r ∈ rows.map render := List.mem_map_of_mem hr
  obtain ⟨r', hr'⟩ := h2 (render r) hm
  obtain ⟨_, _, _, _, h10⟩ := decConllRow_cols hr'
  have h9 := cn_parts_free 9 (cols r) (List.cons_ne_nil _ _) (show (splitOn 9 (render r)).length = (cols r).length by rw [h10]; rfl)
  exact rowOK_iff.2 fun f hf =>
    ⟨h9 f hf, fun hc => hfree (render r) hm (mem_joinSep.2 (Or.inl ⟨f, hf, hc⟩))⟩

theorem cn_viewRows_columns : ∀ (t : Tree) (off up : Nat) (pre : List Str) (k : Nat),
    (viewRows t off up pre k).map (fun r => (r.word, r.lemma, r.pos, r.pos2)) =
      t.tokens.map (fun tok =>
        (denormalize (Token.getD tok (lit "word") []), Token.getD tok (lit "lemma") (lit "_"),
          Token.getD tok (lit "pos") (lit "_"), Token.getD tok (lit "pos") (lit "_"))) ∧
    (viewRows t off up pre k).map (·.cat) = t.leaves.map (·.cat.str)
  | .leaf .., _, _, _, _ => ⟨rfl, rfl⟩
  | .un _ _ _ ch, off, up, pre, k => cn_viewRows_columns ch off up _ _
  | .bin _ _ _ h l r, off, up, pre, k => by
    simp only [viewRows, List.map_append, Tree.tokens, Tree.leaves,
      (cn_viewRows_columns l _ _ _ _).1, (cn_viewRows_columns l _ _ _ _).2,
      (cn_viewRows_columns r _ _ _ _).1, (cn_viewRows_columns r _ _ _ _).2, and_self]

end Depccg.C07
