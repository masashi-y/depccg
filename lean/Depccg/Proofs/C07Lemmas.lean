/-
  C07  helper lemmas. `_resolve_dependencies` fills the dependency column bottom-up, overwriting entries with
  `set`; `rawHeads` is the same column computed top-down (`resolveDeps_eq`), and the root, the attachments and
  the number of roots are read off `rawHeads`. The extended AUTO line is its fields joined by blanks
  (`extFields`, as `C08.autoFields` for the AUTO line), and `decExt` pops them (`decExt_fields`). The json tree
  by structural recursion.
-/
import Depccg.Props.C07Defs
import Depccg.Proofs.C08Lemmas

namespace Depccg.C07
open Depccg Str Print TextProps
open Depccg.C20 (noneOf noneOf_append noneOf_cons noneOf_joinSep)

theorem jsonShape_jsonOf : ∀ t : Tree, jsonShape (jsonOf t) t
  | .leaf _ tok _ _ => ⟨C06.get?_set_self tok _ _, C06.set_of_get?_none _⟩
  | .un _ _ _ ch => ⟨rfl, rfl, jsonShape_jsonOf ch⟩
  | .bin _ _ _ _ l r => ⟨rfl, rfl, jsonShape_jsonOf l, jsonShape_jsonOf r⟩

theorem numLeaves_pos : ∀ t : Tree, 1 ≤ t.numLeaves
  | .leaf .. => Nat.le_refl 1
  | .un _ _ _ ch => numLeaves_pos ch
  | .bin _ _ _ _ l r => by
    have := numLeaves_pos l
    simp only [Tree.numLeaves]; omega

theorem headIdx_bounds : ∀ (t : Tree) (off : Nat), off ≤ headIdx t off ∧ headIdx t off < off + t.numLeaves
  | .leaf .., off => by simp [headIdx, Tree.numLeaves]
  | .un _ _ _ ch, off => headIdx_bounds ch off
  | .bin _ _ _ h l r, off => by
    have hl := headIdx_bounds l off
    have hr := headIdx_bounds r (off + l.numLeaves)
    simp only [headIdx, Tree.numLeaves]
    cases h <;> simp <;> omega

theorem attachments_span : ∀ (t : Tree) (off : Nat), ∀ p ∈ attachments t off,
    off ≤ p.1 ∧ p.1 < off + t.numLeaves ∧ off ≤ p.2 ∧ p.2 < off + t.numLeaves ∧ p.1 ≠ p.2
  | .leaf .., _, p, hp => nomatch hp
  | .un _ _ _ ch, off, p, hp => attachments_span ch off p hp
  | .bin _ _ _ h l r, off, p, hp => by
    simp only [attachments, List.mem_append, List.mem_singleton] at hp
    simp only [Tree.numLeaves]
    rcases hp with (hp | hp) | rfl
    · have := attachments_span l off p hp
      omega
    · have := attachments_span r (off + l.numLeaves) p hp
      omega
    · have hl := headIdx_bounds l off
      have hr := headIdx_bounds r (off + l.numLeaves)
      cases h <;> simp <;> omega

theorem resolveDeps_bin (c : Cat) (s y : Str) (h : Bool) (l r : Tree) (res : List (Option Nat)) :
    resolveDeps (.bin c s y h l r) res =
      if h then ((resolveDeps l res).1,
          (resolveDeps r (resolveDeps l res).2).2.set (resolveDeps r (resolveDeps l res).2).1
            (some (resolveDeps l res).1))
      else ((resolveDeps r (resolveDeps l res).2).1,
          (resolveDeps r (resolveDeps l res).2).2.set (resolveDeps l res).1
            (some (resolveDeps r (resolveDeps l res).2).1)) := rfl

def roots (l : List (Option Nat)) : Nat := (l.filter (· == none)).length

theorem roots_nil : roots [] = 0 := rfl

theorem roots_append (a b : List (Option Nat)) : roots (a ++ b) = roots a + roots b := by
  simp [roots]

/-- the printer's column (`none` = Python's -1) of a subtree, top-down: `u` is the entry of its
    head word. Position `k` of the result is word `off + k`; the entries are word indices in the
    sentence, not in the subtree. -/
def rawHeads : Tree → Nat → Option Nat → List (Option Nat)
  | .leaf .., _, u => [u]
  | .un _ _ _ ch, off, u => rawHeads ch off u
  | .bin _ _ _ h l r, off, u =>
    rawHeads l off (if h then u else some (headIdx r (off + l.numLeaves))) ++
    rawHeads r (off + l.numLeaves) (if h then some (headIdx l off) else u)

theorem rawHeads_length : ∀ (t : Tree) (off : Nat) (u : Option Nat),
    (rawHeads t off u).length = t.numLeaves
  | .leaf .., _, _ => rfl
  | .un _ _ _ ch, off, u => rawHeads_length ch off u
  | .bin _ _ _ h l r, off, u => by
    simp only [rawHeads, List.length_append, rawHeads_length, Tree.numLeaves]

/-- what characterises `rawHeads`: `u` lands at the position of the head word and nowhere else -/
theorem rawHeads_set : ∀ (t : Tree) (off : Nat) (u v : Option Nat),
    (rawHeads t off u).set (headIdx t off - off) v = rawHeads t off v
  | .leaf .., off, u, v => by simp [rawHeads, headIdx]
  | .un _ _ _ ch, off, u, v => rawHeads_set ch off u v
  | .bin _ _ _ h l r, off, u, v => by
    have hl := headIdx_bounds l off
    have hr := headIdx_bounds r (off + l.numLeaves)
    cases h with
    | true =>
      simp only [rawHeads, headIdx, if_true]
      rw [List.set_append_left _ _ (by rw [rawHeads_length]; omega), rawHeads_set l off u v]
    | false =>
      simp only [rawHeads, headIdx, Bool.false_eq_true, if_false]
      rw [List.set_append_right _ _ (by rw [rawHeads_length]; omega), rawHeads_length, Nat.sub_sub,
        rawHeads_set r (off + l.numLeaves) u v]

/-- `_resolve_dependencies` returns the head word of the subtree and appends its top-down column:
    the `set` of a binary node overwrites the entry of the head word of the non-head child -/
theorem resolveDeps_eq : ∀ (t : Tree) (res : List (Option Nat)),
    resolveDeps t res = (headIdx t res.length, res ++ rawHeads t res.length none)
  | .leaf .., res => rfl
  | .un _ _ _ ch, res => resolveDeps_eq ch res
  | .bin c s y h l r, res => by
    have hl := headIdx_bounds l res.length
    have hr := headIdx_bounds r (res.length + l.numLeaves)
    rw [resolveDeps_bin, resolveDeps_eq l res, resolveDeps_eq r]
    simp only [List.length_append, rawHeads_length, headIdx, rawHeads]
    cases h with
    | true =>
      simp only [if_true]
      rw [List.set_append_right _ _ (by simp only [List.length_append, rawHeads_length]; omega)]
      simp only [List.length_append, rawHeads_length, rawHeads_set, List.append_assoc]
    | false =>
      simp only [Bool.false_eq_true, if_false]
      rw [List.set_append_left _ _ (by simp only [List.length_append, rawHeads_length]; omega),
        List.set_append_right _ _ (by omega)]
      simp only [rawHeads_set, List.append_assoc]

theorem rawHeads_head (t : Tree) (off : Nat) (u : Option Nat) :
    (rawHeads t off u)[headIdx t off - off]? = some u := by
  have hb := headIdx_bounds t off
  rw [← rawHeads_set t off none u, List.getElem?_set_self (by rw [rawHeads_length]; omega)]

theorem getElem?_rawHeads_append (l r : Tree) (off i : Nat) (u v : Option Nat) (hi : off ≤ i) :
    (rawHeads l off u ++ rawHeads r (off + l.numLeaves) v)[i - off]? =
      if i < off + l.numLeaves then (rawHeads l off u)[i - off]?
      else (rawHeads r (off + l.numLeaves) v)[i - (off + l.numLeaves)]? := by
  split
  · rw [List.getElem?_append_left (by rw [rawHeads_length]; omega)]
  · rw [List.getElem?_append_right (by rw [rawHeads_length]; omega), rawHeads_length, Nat.sub_sub]

theorem rawHeads_dep : ∀ (t : Tree) (off : Nat) (u : Option Nat) (i : Nat),
    off ≤ i → i < off + t.numLeaves → i ≠ headIdx t off →
    ∃ j, (rawHeads t off u)[i - off]? = some (some j) ∧ (i, j) ∈ attachments t off
  | .leaf .., off, u, i, h1, h2, h3 => by
    simp only [Tree.numLeaves, headIdx] at h2 h3
    omega
  | .un _ _ _ ch, off, u, i, h1, h2, h3 => rawHeads_dep ch off u i h1 h2 h3
  | .bin _ _ _ h l r, off, u, i, h1, h2, h3 => by
    simp only [Tree.numLeaves] at h2
    simp only [rawHeads, attachments, List.mem_append, List.mem_singleton,
      getElem?_rawHeads_append _ _ _ _ _ _ h1]
    split
    · next hlt =>
      by_cases hi : i = headIdx l off
      · subst hi
        cases h
        · exact ⟨_, rawHeads_head l off _, Or.inr rfl⟩
        · exact absurd rfl h3
      · obtain ⟨j, hj, hm⟩ := rawHeads_dep l off _ i h1 hlt hi
        exact ⟨j, hj, Or.inl (Or.inl hm)⟩
    · by_cases hi : i = headIdx r (off + l.numLeaves)
      · subst hi
        cases h
        · exact absurd rfl h3
        · exact ⟨_, rawHeads_head r _ _, Or.inr rfl⟩
      · obtain ⟨j, hj, hm⟩ := rawHeads_dep r _ _ i (by omega) (by omega) hi
        exact ⟨j, hj, Or.inl (Or.inr hm)⟩

theorem roots_rawHeads : ∀ (t : Tree) (off : Nat) (u : Option Nat), roots (rawHeads t off u) = roots [u]
  | .leaf .., _, _ => rfl
  | .un _ _ _ ch, off, u => roots_rawHeads ch off u
  | .bin _ _ _ h l r, off, u => by
    simp only [rawHeads, roots_append, roots_rawHeads]
    cases h <;> cases u <;> rfl

def attr (tok : Token) (k : String) : Str := Token.getD tok (lit k) (lit "XX")

def extFields : Tree → List Str
  | .leaf c tok _ _ =>
    [lit "(<L", c.str, denormalize (Token.getD tok (lit "word") []), attr tok "lemma", attr tok "pos",
      attr tok "entity", attr tok "chunk", c.str ++ lit ">)"]
  | .un c s _ ch => [lit "(<T", c.str, s, lit "0", lit "1>"] ++ extFields ch ++ [lit ")"]
  | .bin c s _ h l r =>
    [lit "(<T", c.str, s, (if h then lit "0" else lit "1"), lit "2>"] ++ extFields l ++ extFields r ++ [lit ")"]

theorem extFields_ne_nil : ∀ t : Tree, extFields t ≠ []
  | .leaf .. => by simp [extFields]
  | .un .. => by simp [extFields]
  | .bin .. => by simp [extFields]

theorem autoExtOf_eq : ∀ (t : Tree), AllToks C19.HasWord t → autoExtOf t = .ok (joinSep 32 (extFields t))
  | .leaf c tok _ _, ⟨w, hw⟩ => by
    simp only [autoExtOf, TextProps.get_of_get? hw, extFields, TextProps.getD_of_get? hw, attr, sp, cSpace]
  | .un c a _ ch, h => by
    simp only [autoExtOf, autoExtOf_eq ch h, extFields, sp, cSpace]
    exact congrArg _ (joinSep_mid 32 [lit "(<T", c.str, a, lit "0", lit "1>"] (extFields ch) (lit ")") []
      (extFields_ne_nil ch))
  | .bin c a _ hd l r, h => by
    simp only [autoExtOf, autoExtOf_eq l h.1, autoExtOf_eq r h.2, extFields, sp, cSpace]
    exact congrArg _ <|
      (joinSep_mid 32 [lit "(<T", c.str, a, (if hd then lit "0" else lit "1"), lit "2>"]
        (extFields l) (joinSep 32 (extFields r)) [lit ")"] (extFields_ne_nil l)).trans
      (joinSep_mid 32 ([lit "(<T", c.str, a, (if hd then lit "0" else lit "1"), lit "2>"] ++ extFields l)
        (extFields r) (lit ")") [] (extFields_ne_nil r))

theorem autoExtOf_fields (t : Tree) (s : Str) (ht : AllToks TokOK t) (h : autoExtOf t = .ok s) :
    s = joinSep 32 (extFields t) :=
  (Except.ok.inj ((autoExtOf_eq t (ht.mono fun _ h => h.1)).symm.trans h)).symm

theorem extFields_noneOf : ∀ (t : Tree), AllCats CatOK t → AllToks TokOK t → LabelsPlain t →
    ∀ f ∈ extFields t, noneOf [32, 9, 10, 13] f
  | .leaf c tok _ _, hc, ht, _ => by
    have ha : ∀ k, noneOf [32, 9, 10, 13] (attr tok k) := fun k =>
      (TextProps.TokOK.getD_noneOf ht (by decide)).mono (by decide)
    have hw := (TextProps.TokOK.word_noneOf ht).mono (bad' := [32, 9, 10, 13]) (by decide)
    simp only [extFields, List.forall_mem_cons]
    exact ⟨by decide, C08.catOK_noneOf hc, hw, ha _, ha _, ha _, ha _,
      noneOf_append.2 ⟨C08.catOK_noneOf hc, by decide⟩, nofun⟩
  | .un c s _ ch, hc, ht, hl => by
    simp only [extFields, List.forall_mem_cons, List.forall_mem_append]
    exact ⟨⟨⟨by decide, C08.catOK_noneOf hc.1, (TextProps.PlainWord.noneOf hl.1).mono (by decide), by decide, by decide,
      nofun⟩, extFields_noneOf ch hc.2 ht hl.2⟩, by decide, nofun⟩
  | .bin c s _ hd l r, hc, ht, hl => by
    simp only [extFields, List.forall_mem_cons, List.forall_mem_append]
    exact ⟨⟨⟨⟨by decide, C08.catOK_noneOf hc.1, (TextProps.PlainWord.noneOf hl.1).mono (by decide),
      by cases hd <;> decide, by decide, nofun⟩, extFields_noneOf l hc.2.1 ht.1 hl.2.1⟩,
      extFields_noneOf r hc.2.2 ht.2 hl.2.2⟩, by decide, nofun⟩

theorem autoExtOf_no10 (t : Tree) (s : Str) (hc : AllCats CatOK t) (ht : AllToks TokOK t)
    (hl : LabelsPlain t) (hs : autoExtOf t = .ok s) : 10 ∉ s := by
  rw [autoExtOf_fields t s ht hs]
  exact (noneOf_joinSep.2 ⟨fun f hf => (extFields_noneOf t hc ht hl f hf).mono (bad' := [10]) (by decide),
    fun _ => by decide⟩).notMem (by decide)

theorem decExt_nil (fuel : Nat) : decExt fuel [] = none := by
  cases fuel <;> simp [decExt]

theorem T_ne_L : (lit "(<T" == lit "(<L") = false := by decide
theorem two_ne_one : (lit "2>" == lit "1>") = false := by decide

theorem decExt_leaf (fuel : Nat) (cat a b c d e : Str) (rest : List Str) :
    decExt (fuel + 1) (lit "(<L" :: cat :: a :: b :: c :: d :: e :: (cat ++ lit ">)") :: rest) =
      some (.leaf cat a b c d e, rest) := by
  simp [decExt]

theorem decExt_un (fuel : Nat) (cat a b : Str) (r r2 : List Str) (k : AView)
    (h : decExt fuel r = some (k, lit ")" :: r2)) :
    decExt (fuel + 1) (lit "(<T" :: cat :: a :: b :: lit "1>" :: r) = some (.un cat a (b == lit "0") k, r2) := by
  cases r with
  | nil => rw [decExt_nil] at h; cases h
  | cons d rest =>
    unfold decExt
    simp [T_ne_L, h]

theorem decExt_bin (fuel : Nat) (cat a b : Str) (r r1 r2 : List Str) (k1 k2 : AView)
    (h1 : decExt fuel r = some (k1, r1)) (h2 : decExt fuel r1 = some (k2, lit ")" :: r2)) :
    decExt (fuel + 1) (lit "(<T" :: cat :: a :: b :: lit "2>" :: r) =
      some (.bin cat a (b == lit "0") k1 k2, r2) := by
  cases r with
  | nil => rw [decExt_nil] at h1; cases h1
  | cons d rest =>
    unfold decExt
    simp [T_ne_L, two_ne_one, h1, h2]

theorem decExt_fields : ∀ (t : Tree) (fuel : Nat) (rest : List Str), nodes t ≤ fuel →
    decExt fuel (extFields t ++ rest) = some (viewExt t, rest)
  | .leaf c tok _ _, fuel, rest, hf => by
    obtain ⟨f, rfl⟩ : ∃ f, fuel = f + 1 := ⟨fuel - 1, by simp only [nodes] at hf; omega⟩
    simp only [extFields, List.cons_append, List.nil_append]
    rw [decExt_leaf]
    rfl
  | .un c s _ ch, fuel, rest, hf => by
    simp only [nodes] at hf
    obtain ⟨f, rfl⟩ : ∃ f, fuel = f + 1 := ⟨fuel - 1, by omega⟩
    have ih := decExt_fields ch f (lit ")" :: rest) (by omega)
    simp only [extFields, List.cons_append, List.nil_append, List.append_assoc]
    rw [decExt_un f c.str s (lit "0") _ rest (viewExt ch) ih, beq_self_eq_true]
    rfl
  | .bin c s _ hd l r, fuel, rest, hf => by
    simp only [nodes] at hf
    obtain ⟨f, rfl⟩ : ∃ f, fuel = f + 1 := ⟨fuel - 1, by omega⟩
    have ihr := decExt_fields r f (lit ")" :: rest) (by omega)
    have ihl := decExt_fields l f (extFields r ++ lit ")" :: rest) (by omega)
    simp only [extFields, List.cons_append, List.nil_append, List.append_assoc]
    rw [decExt_bin f c.str s _ _ _ rest (viewExt l) (viewExt r) ihl ihr, Str.ite_beq_left (by decide)]
    rfl

theorem decExt_printed (t : Tree) (s : Str) (hc : AllCats CatOK t) (ht : AllToks TokOK t)
    (hl : LabelsPlain t) (hs : autoExtOf t = .ok s) :
    decExt (nodes t + 1) (splitOn cSpace s) = some (viewExt t, []) := by
  rw [autoExtOf_fields t s ht hs, show cSpace = 32 from rfl,
    splitOn_joinSep 32 _ (extFields_ne_nil t) fun f hf => (extFields_noneOf t hc ht hl f hf).notMem (by decide)]
  simpa using decExt_fields t (nodes t + 1) [] (Nat.le_succ _)

theorem joinSep_two (sep : Nat) (a b : Str) : joinSep sep [a, b] = a ++ sep :: b := rfl

end Depccg.C07
