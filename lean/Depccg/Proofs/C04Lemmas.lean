/-
  The Japanese combinators.  Ten of them are rules of the table `Rules.JaTable.rules`
  (Proofs/Rules.lean), so each is handled as its English counterpart in Proofs/C03Lemmas.lean
  (`C03.pat_mem` says which place of `C06.grammarPatterns` is which rule).  The labels of the unary
  rules are read off `C04.ushape`.
-/
import Depccg.Props.C04Defs
import Depccg.Proofs.C03Lemmas

namespace Depccg.C04
open Depccg Cat Str Unify
open Depccg.C03 (PartsMatch Inst fwdSlash bwdSlash pat_mem fwd_of bwd_of
  isModifier_fn isModifier_fn_false)
open Depccg.C06 (SameKind)

theorem applyBinary_mem {seen : Option (List (Cat × Cat))} {x y : Cat} {rs : List RuleRes}
    (h : Ja.applyBinary seen x y = .ok rs) {r : RuleRes} (hr : r ∈ rs) :
    ∃ c ∈ Ja.combinators, c x y = .ok (some r) :=
  C03.gate_mem h hr

section sound
variable {x y : Cat} {r : RuleRes} (sk : SameKind x y)
include sk

theorem fa_sound (h : Ja.forwardApplication x y = .ok (some r)) : Justified x y r := by
  obtain ⟨sx, -, hpm, g, hI, hr⟩ :=
    C03.run_facts Rules.JaTable.fa_run (pat_mem 0 rfl) sk h
  obtain ⟨xa, s, xb, rfl, hs, -, -⟩ := sx.fn_inv
  have pm : PartsMatch xb y := hpm [98] _ _ rfl rfl
  rcases hr with ⟨hm, rfl⟩ | ⟨hm, rfl⟩
  · exact .fa_mod xa xb s rfl (fwd_of hs) pm (isModifier_fn.1 hm)
  · exact .fa xa xb _ s rfl (fwd_of hs) pm (isModifier_fn_false hm) (hI [97] xa rfl)

theorem ba_sound (h : Ja.backwardApplication x y = .ok (some r)) : Justified x y r := by
  obtain ⟨-, sy, hpm, g, hI, hr⟩ :=
    C03.run_facts Rules.JaTable.ba_run (pat_mem 1 rfl) sk h
  obtain ⟨ya, s, yb, rfl, hs, -, -⟩ := sy.fn_inv
  have pm : PartsMatch x yb := hpm [98] _ _ rfl rfl
  rcases hr with ⟨hm, rfl⟩ | ⟨hm, rfl⟩
  · exact .ba_mod ya yb s rfl (bwd_of hs) pm (isModifier_fn.1 hm)
  · exact .ba ya yb _ s rfl (bwd_of hs) pm (isModifier_fn_false hm) (hI [97] ya rfl)

theorem fc_sound (h : Ja.forwardComposition x y = .ok (some r)) : Justified x y r := by
  obtain ⟨sx, sy, hpm, g, hI, hr⟩ :=
    C03.run_facts Rules.JaTable.fc_run (pat_mem 2 rfl) sk h
  obtain ⟨xa, s1, xb, rfl, hs1, -, -⟩ := sx.fn_inv
  obtain ⟨yb, s2, yc, rfl, hs2, -, -⟩ := sy.fn_inv
  have pm : PartsMatch xb yb := hpm [98] _ _ rfl rfl
  rcases hr with ⟨hm, rfl⟩ | ⟨hm, rfl⟩
  · exact .fc_mod xa xb yb yc s1 s2 rfl rfl (fwd_of hs1) (fwd_of hs2) pm (isModifier_fn.1 hm)
  · exact .fc xa xb yb yc _ _ s1 s2 rfl rfl (fwd_of hs1) (fwd_of hs2) pm (isModifier_fn_false hm)
      (hI [97] xa rfl) (hI [99] yc rfl)

theorem gbc1_sound (h : Ja.generalizedBackwardComposition1 x y = .ok (some r)) : Justified x y r := by
  obtain ⟨sx, sy, hpm, g, hI, hr⟩ :=
    C03.run_facts Rules.JaTable.gbc1_run (pat_mem 6 rfl) sk h
  obtain ⟨xb, s1, xc, rfl, hs1, -, -⟩ := sx.fn_inv
  obtain ⟨ya, s2, yb, rfl, hs2, -, -⟩ := sy.fn_inv
  have pm : PartsMatch xb yb := hpm [98] _ _ rfl rfl
  rcases hr with ⟨hm, rfl⟩ | ⟨hm, rfl⟩
  · exact .b1_mod ya xb yb xc s1 s2 rfl rfl (bwd_of hs1) (bwd_of hs2) pm (isModifier_fn.1 hm)
  · exact .b1 ya xb yb xc _ _ s1 s2 rfl rfl (bwd_of hs1) (bwd_of hs2) pm (isModifier_fn_false hm)
      (hI [97] ya rfl) (hI [99] xc rfl)

theorem gbc2_sound (h : Ja.generalizedBackwardComposition2 x y = .ok (some r)) : Justified x y r := by
  obtain ⟨sx, sy, hpm, g, hI, hr⟩ :=
    C03.run_facts Rules.JaTable.gbc2_run (pat_mem 7 rfl) sk h
  obtain ⟨x1, s3, xd, rfl, -, sx1, -⟩ := sx.fn_inv
  obtain ⟨xb, s1, xc, rfl, hs1, -, -⟩ := sx1.fn_inv
  obtain ⟨ya, s2, yb, rfl, hs2, -, -⟩ := sy.fn_inv
  have pm : PartsMatch xb yb := hpm [98] _ _ rfl rfl
  rcases hr with ⟨hm, rfl⟩ | ⟨hm, rfl⟩
  · exact .b2_mod ya xb yb xc xd s1 s2 s3 rfl rfl (bwd_of hs1) (bwd_of hs2) pm
      (isModifier_fn.1 hm)
  · exact .b2 ya xb yb xc xd _ _ _ s1 s2 s3 rfl rfl (bwd_of hs1) (bwd_of hs2) pm
      (isModifier_fn_false hm) (hI [97] ya rfl) (hI [99] xc rfl) (hI [100] xd rfl)

theorem gbc3_sound (h : Ja.generalizedBackwardComposition3 x y = .ok (some r)) : Justified x y r := by
  obtain ⟨sx, sy, hpm, g, hI, hr⟩ :=
    C03.run_facts Rules.JaTable.gbc3_run (pat_mem 8 rfl) sk h
  obtain ⟨x2, s4, xe, rfl, -, sx2, -⟩ := sx.fn_inv
  obtain ⟨x1, s3, xd, rfl, -, sx1, -⟩ := sx2.fn_inv
  obtain ⟨xb, s1, xc, rfl, hs1, -, -⟩ := sx1.fn_inv
  obtain ⟨ya, s2, yb, rfl, hs2, -, -⟩ := sy.fn_inv
  have pm : PartsMatch xb yb := hpm [98] _ _ rfl rfl
  rcases hr with ⟨hm, rfl⟩ | ⟨hm, rfl⟩
  · exact .b3_mod ya xb yb xc xd xe s1 s2 s3 s4 rfl rfl (bwd_of hs1) (bwd_of hs2) pm
      (isModifier_fn.1 hm)
  · exact .b3 ya xb yb xc xd xe _ _ _ _ s1 s2 s3 s4 rfl rfl (bwd_of hs1) (bwd_of hs2) pm
      (isModifier_fn_false hm) (hI [97] ya rfl) (hI [99] xc rfl) (hI [100] xd rfl) (hI [101] xe rfl)

theorem gbc4_sound (h : Ja.generalizedBackwardComposition4 x y = .ok (some r)) : Justified x y r := by
  obtain ⟨sx, sy, hpm, g, hI, hr⟩ :=
    C03.run_facts Rules.JaTable.gbc4_run (pat_mem 9 rfl) sk h
  obtain ⟨x3, s5, xf, rfl, -, sx3, -⟩ := sx.fn_inv
  obtain ⟨x2, s4, xe, rfl, -, sx2, -⟩ := sx3.fn_inv
  obtain ⟨x1, s3, xd, rfl, -, sx1, -⟩ := sx2.fn_inv
  obtain ⟨xb, s1, xc, rfl, hs1, -, -⟩ := sx1.fn_inv
  obtain ⟨ya, s2, yb, rfl, hs2, -, -⟩ := sy.fn_inv
  have pm : PartsMatch xb yb := hpm [98] _ _ rfl rfl
  rcases hr with ⟨hm, rfl⟩ | ⟨hm, rfl⟩
  · exact .b4_mod ya xb yb xc xd xe xf s1 s2 s3 s4 s5 rfl rfl (bwd_of hs1) (bwd_of hs2) pm
      (isModifier_fn.1 hm)
  · exact .b4 ya xb yb xc xd xe xf _ _ _ _ _ s1 s2 s3 s4 s5 rfl rfl (bwd_of hs1) (bwd_of hs2) pm
      (isModifier_fn_false hm) (hI [97] ya rfl) (hI [99] xc rfl) (hI [100] xd rfl) (hI [101] xe rfl)
      (hI [102] xf rfl)

theorem gfc1_sound (h : Ja.generalizedForwardComposition1 x y = .ok (some r)) : Justified x y r := by
  obtain ⟨sx, sy, hpm, g, hI, hr⟩ :=
    C03.run_facts Rules.JaTable.gfc1_run (pat_mem 10 rfl) sk h
  obtain ⟨xa, s1, xb, rfl, hs1, -, -⟩ := sx.fn_inv
  obtain ⟨yb, s2, yc, rfl, hs2, -, -⟩ := sy.fn_inv
  have pm : PartsMatch xb yb := hpm [98] _ _ rfl rfl
  rcases hr with ⟨hm, rfl⟩ | ⟨hm, rfl⟩
  · exact .x1_mod xa xb yb yc s1 s2 rfl rfl (fwd_of hs1) (bwd_of hs2) pm (isModifier_fn.1 hm)
  · exact .x1 xa xb yb yc _ _ s1 s2 rfl rfl (fwd_of hs1) (bwd_of hs2) pm (isModifier_fn_false hm)
      (hI [97] xa rfl) (hI [99] yc rfl)

theorem gfc2_sound (h : Ja.generalizedForwardComposition2 x y = .ok (some r)) : Justified x y r := by
  obtain ⟨sx, sy, hpm, g, hI, hr⟩ :=
    C03.run_facts Rules.JaTable.gfc2_run (pat_mem 11 rfl) sk h
  obtain ⟨xa, s1, xb, rfl, hs1, -, -⟩ := sx.fn_inv
  obtain ⟨y1, s3, yd, rfl, -, sy1, -⟩ := sy.fn_inv
  obtain ⟨yb, s2, yc, rfl, hs2, -, -⟩ := sy1.fn_inv
  have pm : PartsMatch xb yb := hpm [98] _ _ rfl rfl
  rcases hr with ⟨hm, rfl⟩ | ⟨hm, rfl⟩
  · exact .x2_mod xa xb yb yc yd s1 s2 s3 rfl rfl (fwd_of hs1) (bwd_of hs2) pm
      (isModifier_fn.1 hm)
  · exact .x2 xa xb yb yc yd _ _ _ s1 s2 s3 rfl rfl (fwd_of hs1) (bwd_of hs2) pm
      (isModifier_fn_false hm) (hI [97] xa rfl) (hI [99] yc rfl) (hI [100] yd rfl)

theorem gfc3_sound (h : Ja.generalizedForwardComposition3 x y = .ok (some r)) : Justified x y r := by
  obtain ⟨sx, sy, hpm, g, hI, hr⟩ :=
    C03.run_facts Rules.JaTable.gfc3_run (pat_mem 12 rfl) sk h
  obtain ⟨xa, s1, xb, rfl, hs1, -, -⟩ := sx.fn_inv
  obtain ⟨y2, s4, ye, rfl, -, sy2, -⟩ := sy.fn_inv
  obtain ⟨y1, s3, yd, rfl, -, sy1, -⟩ := sy2.fn_inv
  obtain ⟨yb, s2, yc, rfl, hs2, -, -⟩ := sy1.fn_inv
  have pm : PartsMatch xb yb := hpm [98] _ _ rfl rfl
  rcases hr with ⟨hm, rfl⟩ | ⟨hm, rfl⟩
  · exact .x3_mod xa xb yb yc yd ye s1 s2 s3 s4 rfl rfl (fwd_of hs1) (bwd_of hs2) pm
      (isModifier_fn.1 hm)
  · exact .x3 xa xb yb yc yd ye _ _ _ _ s1 s2 s3 s4 rfl rfl (fwd_of hs1) (bwd_of hs2) pm
      (isModifier_fn_false hm) (hI [97] xa rfl) (hI [99] yc rfl) (hI [100] yd rfl) (hI [101] ye rfl)

end sound

theorem conjoin_inv {x y : Cat} {r : RuleRes} (h : Ja.conjoin x y = .ok (some r)) :
    IsRoot x ∧ IsRoot y ∧ r = lab "other" "SSEQ" y := by
  have root : ∀ z, Ja.possibleRootCategories.any (Cat.pyEq z) = true → IsRoot z := by
    intro z hz
    obtain ⟨c, hc, he⟩ := List.any_eq_true.1 hz
    rw [(C13.pyEq_iff z c).1 he]
    exact hc
  unfold Ja.conjoin at h
  split at h
  · rename_i hg
    rw [Bool.and_eq_true] at hg
    cases h
    exact ⟨root x hg.1, root y hg.2, rfl⟩
  · cases h

theorem comb_sound {x y : Cat} {r : RuleRes} (sk : SameKind x y)
    {c : Ja.Comb} (hc : c ∈ Ja.combinators) (h : c x y = .ok (some r)) : Justified x y r := by
  simp only [Ja.combinators, List.mem_cons, List.not_mem_nil, or_false] at hc
  rcases hc with rfl | rfl | rfl | rfl | rfl | rfl | rfl | rfl | rfl | rfl | rfl
  · exact fa_sound sk h
  · exact ba_sound sk h
  · exact fc_sound sk h
  · exact gbc1_sound sk h
  · exact gbc2_sound sk h
  · exact gbc3_sound sk h
  · exact gbc4_sound sk h
  · exact gfc1_sound sk h
  · exact gfc2_sound sk h
  · exact gfc3_sound sk h
  · obtain ⟨hx, hy, rfl⟩ := conjoin_inv h
    exact .sseq hx hy

theorem table_labels :
    Rules.JaTable.rules.map (fun R => (lit R.os, lit R.sym)) ++ [(lit "other", lit "SSEQ")] = jaLabels :=
  rfl

theorem table_heads : ∀ R ∈ Rules.JaTable.rules, R.hl = false := by decide

theorem comb_label {x y : Cat} {r : RuleRes} {c : Ja.Comb} (hc : c ∈ Ja.combinators)
    (h : c x y = .ok (some r)) : (r.opString, r.opSymbol) ∈ jaLabels ∧ r.headLeft = false := by
  rw [← table_labels]
  rcases Rules.mem_ja hc with ⟨R, hR, e⟩ | rfl
  · obtain ⟨h1, h2, h3⟩ := Rules.Rule.run_label (e x y ▸ h)
    rw [h1, h2, h3]
    exact ⟨List.mem_append_left _ (List.mem_map.2 ⟨R, hR, rfl⟩), table_heads R hR⟩
  · obtain ⟨-, -, rfl⟩ := conjoin_inv h
    exact ⟨List.mem_append_right _ (List.mem_singleton_self _), rfl⟩

theorem has_iff (k1 v1 k2 v2 k3 v3 m v : Str) (h12 : k1 ≠ k2) (h13 : k1 ≠ k3) (h23 : k2 ≠ k3) :
    ((k1 == m && v1 == v) || (k2 == m && v2 == v) || (k3 == m && v3 == v)) = true ↔
    (if k1 == m then some v1 else if k2 == m then some v2 else if k3 == m then some v3 else none)
      = some v := by
  by_cases e1 : k1 = m
  · subst e1
    have n2 : ¬ k2 = k1 := fun e => h12 e.symm
    have n3 : ¬ k3 = k1 := fun e => h13 e.symm
    simp [n2, n3]
  · by_cases e2 : k2 = m
    · subst e2
      have n3 : ¬ k3 = k2 := fun e => h23 e.symm
      simp [e1, n3]
    · by_cases e3 : k3 = m
      · subst e3
        simp [e1, e2]
      · simp [e1, e2, e3]

theorem xorEq_atom_iff (c : Cat) (b : String) : Cat.xorEq c (.atom (lit b) (.un none)) = isBase c b := by
  cases c <;> rfl

theorem ushape_iff (x : Cat) :
    (Cat.xorEq x Ja.catS = true ↔ ushape x = .s) ∧
    (Cat.xorEq x (.fn Ja.catS cBSlash Ja.catNP) = true ↔ ushape x = .s_np) ∧
    (Cat.xorEq x (.fn (.fn Ja.catS cBSlash Ja.catNP) cBSlash Ja.catNP) = true ↔ ushape x = .s_np_np) := by
  cases x with
  | atom b f =>
    simp only [Cat.xorEq, Ja.catS, ushape]
    cases b == lit "S" <;> decide
  | fn l s r =>
    -- both sides are made of a few Boolean tests on the parts: all their values are checked
    cases l with
    | atom b f =>
      simp only [Cat.xorEq, Ja.catS, Ja.catNP, ushape]
      simp only [xorEq_atom_iff]
      generalize (s == cBSlash) = A, isBase r "NP" = B, (b == lit "S") = C
      revert A B C
      decide
    | fn l2 s2 r2 =>
      simp only [Cat.xorEq, Ja.catS, Ja.catNP, ushape]
      simp only [xorEq_atom_iff]
      generalize (s == cBSlash) = A, isBase r "NP" = B, (s2 == cBSlash) = C, isBase r2 "NP" = D,
        isBase l2 "S" = E
      revert A B C D E
      decide

theorem unaryRuleSymbol_spec {x : Cat} (hd : DistinctKeys x) {sym : Str}
    (h : Ja.unaryRuleSymbol x = .ok sym) : sym = lit (specLabel x) := by
  unfold Ja.unaryRuleSymbol at h
  split at h
  next b k1 v1 k2 v2 k3 v3 hra =>
    obtain ⟨h12, h13, h23⟩ := hd b k1 v1 k2 v2 k3 v3 hra
    have hmod : ∀ v, ((k1 == lit "mod" && v1 == v) || (k2 == lit "mod" && v2 == v) ||
        (k3 == lit "mod" && v3 == v)) = true ↔ modOf x = some v := by
      intro v
      rw [modOf, hra]
      exact has_iff k1 v1 k2 v2 k3 v3 _ v h12 h13 h23
    obtain ⟨hs, hs1, hs2⟩ := ushape_iff x
    -- the tests become those of `specLabel`, and `.ok` and `lit` move to the leaves
    simp only [hmod, hs, hs1, hs2, ← apply_ite Except.ok, Except.ok.injEq] at h
    subst h
    simp only [specLabel, apply_ite lit]
    cases ushape x <;> rfl
  next => cases h

theorem ite_mem {α : Type _} {l : List α} {p : Prop} [Decidable p] {a b : α} (ha : a ∈ l) (hb : b ∈ l) :
    (if p then a else b) ∈ l := by
  split <;> assumption

theorem unaryRuleSymbol_closed {x : Cat} {sym : Str} (h : Ja.unaryRuleSymbol x = .ok sym) :
    sym ∈ jaUnaryLabels := by
  unfold Ja.unaryRuleSymbol at h
  split at h
  next =>
    simp only [← apply_ite Except.ok, Except.ok.injEq] at h
    subst h
    repeat' refine ite_mem ?_ ?_
    all_goals simp only [jaUnaryLabels, List.mem_cons, true_or, or_true]
  next => cases h

end Depccg.C04
