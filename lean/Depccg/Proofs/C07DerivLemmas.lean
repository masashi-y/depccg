/-
  C07, `deriv` format: from the printer `derivOf` to the reader `decDeriv`. The printer's running maxima are the sums
  of the leaf columns (`derivRec_spec`), so the text is a total function of the tree (`dd_derivOf_eq`): two header
  lines over the columns, then the rule lines. Of the header lines only `fields` is described: the reader recomputes
  the columns from the lengths of the fields. The rule lines of a subtree rewrite the forest entries of its leaves
  into the entry of its view (`dd_reduceAll_tree`).
-/
import Depccg.Props.C07DerivDefs
import Depccg.Proofs.TokenLemmas
import Depccg.Read.BlockDoc

namespace Depccg.C07
open Depccg Str Print Read TextProps

theorem natCast_add_sub_left (a b : Nat) : ((a + b : Nat) : Int) - (a : Int) = (b : Int) := by omega

theorem derivRec_spec : ∀ (t : Tree) (lw : Nat), AllToks C19.HasWord t →
    derivRec t lw = .ok (lw + width t, ruleLines t lw)
  | .leaf c tok _ _, lw, ⟨w, hw⟩ => by
    simp only [derivRec, TextProps.get_of_get? hw, width, leafWidth, TextProps.getD_of_get? hw, ruleLines]
    congr 2
    omega
  | .un c _ y ch, lw, h => by
    have ih := derivRec_spec ch lw h
    have hmax : max lw (lw + width ch) = lw + width ch := by omega
    have hsub : lw + width ch - lw = width ch := by omega
    simp only [derivRec, ih, width, ruleLines, hmax, hsub, natCast_add_sub_left]
  | .bin c _ y _ l r, lw, h => by
    have ihl := derivRec_spec l lw h.1
    have hmax1 : max lw (lw + width l) = lw + width l := by omega
    have ihr := derivRec_spec r (lw + width l) h.2
    have hmax2 : max (lw + width l) (lw + width l + width r) = lw + (width l + width r) := by omega
    have hsub : lw + (width l + width r) - lw = width l + width r := by omega
    simp only [derivRec, ihl, hmax1, ihr, hmax2, width, ruleLines, hsub, natCast_add_sub_left]

theorem dd_countWhile_replicate (c n : Nat) (r : Str) (h : r.head? ≠ some c) :
    countWhile c (List.replicate n c ++ r) = n := by
  induction n with
  | zero =>
    cases r with
    | nil => rfl
    | cons x xs =>
      have hx : x ≠ c := by simp at h; exact h
      simp [countWhile, hx]
  | succ n ih => simp [List.replicate_succ, countWhile, ih]

theorem dd_rule_lw (lw wd : Nat) (y : Str) (hwd : 0 < wd) :
    countWhile cSpace (spaces lw ++ List.replicate wd 45 ++ y) = lw := by
  obtain ⟨n, rfl⟩ : ∃ n, wd = n + 1 := ⟨wd - 1, by omega⟩
  rw [List.append_assoc]
  exact dd_countWhile_replicate cSpace lw _ (by simp [List.replicate_succ, cSpace])

theorem dd_rule_drop (lw wd : Nat) (y : Str) :
    (spaces lw ++ List.replicate wd 45 ++ y).drop lw = List.replicate wd 45 ++ y := by
  rw [List.append_assoc]
  exact List.drop_left' List.length_replicate

theorem dd_fields_nil : fields [] = [] := rfl

theorem dd_fields_append_sp (a b : Str) : fields (a ++ 32 :: b) = fields a ++ fields b := by
  unfold fields
  rw [show cSpace = 32 from rfl, Str.splitOn_append_sep, List.filter_append]

theorem dd_fields_spaces_left (n : Nat) (s : Str) : fields (spaces n ++ s) = fields s := by
  induction n with
  | zero => rfl
  | succ n ih =>
    have : spaces (n + 1) ++ s = [] ++ 32 :: (spaces n ++ s) := rfl
    rw [this, dd_fields_append_sp, dd_fields_nil, List.nil_append, ih]

theorem dd_fields_spaces (n : Nat) : fields (spaces n) = [] := by
  have := dd_fields_spaces_left n []
  rwa [List.append_nil] at this

theorem dd_fields_spaces_right (n : Nat) (s : Str) : fields (s ++ spaces n) = fields s := by
  cases n with
  | zero => simp [spaces]
  | succ n =>
    have : s ++ spaces (n + 1) = s ++ 32 :: spaces n := rfl
    rw [this, dd_fields_append_sp, dd_fields_spaces, List.append_nil]

theorem dd_fields_one (f : Str) (hne : f ≠ []) (h32 : 32 ∉ f) : fields f = [f] := by
  unfold fields
  rw [show cSpace = 32 from rfl, Str.splitOn_of_notMem 32 h32]
  cases f with
  | nil => exact absurd rfl hne
  | cons x xs => rfl

/-- one centred column of a header line -/
theorem dd_fields_block {a b : Nat} {f rest : Str} (hne : f ≠ []) (h32 : 32 ∉ f) (hb : 0 < b) :
    fields (spaces a ++ f ++ spaces b ++ rest) = f :: fields rest := by
  obtain ⟨n, rfl⟩ : ∃ n, b = n + 1 := ⟨b - 1, by omega⟩
  have : spaces a ++ f ++ spaces (n + 1) ++ rest = spaces a ++ (f ++ 32 :: (spaces n ++ rest)) := by
    simp [spaces, List.replicate_succ, cSpace]
  rw [this, dd_fields_spaces_left, dd_fields_append_sp, dd_fields_one f hne h32, dd_fields_spaces_left]
  rfl

theorem dd_fields_catLine (p : Int) (cat : Str) (hne : cat ≠ []) (h32 : 32 ∉ cat) :
    fields (spacesI p ++ cat) = [cat] := by
  have : spacesI p = spaces p.toNat := rfl
  rw [this, dd_fields_spaces_left, dd_fields_one cat hne h32]

theorem dd_rstrip_decomp (s : Str) : ∃ k, s = rstripSp s ++ spaces k := by
  refine ⟨(s.reverse.takeWhile (· == cSpace)).length, ?_⟩
  have h1 : s.reverse.takeWhile (· == cSpace) ++ s.reverse.dropWhile (· == cSpace) = s.reverse :=
    List.takeWhile_append_dropWhile
  have h2 : s.reverse.takeWhile (· == cSpace) =
      List.replicate (s.reverse.takeWhile (· == cSpace)).length cSpace := by
    rw [List.eq_replicate_iff]
    refine ⟨rfl, fun b hb => ?_⟩
    have := List.all_eq_true.1 List.all_takeWhile b hb
    simpa using this
  have h3 : s = (s.reverse.dropWhile (· == cSpace)).reverse ++ (s.reverse.takeWhile (· == cSpace)).reverse := by
    rw [← List.reverse_append, h1, List.reverse_reverse]
  unfold rstripSp spaces
  rw [← List.reverse_replicate, ← h2]
  exact h3

theorem dd_fields_rstrip (s : Str) : fields (rstripSp s) = fields s := by
  obtain ⟨k, hk⟩ := dd_rstrip_decomp s
  conv => rhs; rw [hk]
  rw [dd_fields_spaces_right]

theorem dd_rstrip_noNL (s : Str) (h : 10 ∉ s) : 10 ∉ rstripSp s := by
  obtain ⟨k, hk⟩ := dd_rstrip_decomp s
  intro hm
  apply h
  rw [hk]
  exact List.mem_append_left _ hm

theorem dd_header_cons (c w : Str) (rest : List (Str × Str)) :
    derivHeader ((c, w) :: rest) =
      (spaces ((2 + max w.length c.length - c.length) / 2) ++ c ++
          spaces ((2 + max w.length c.length - c.length) / 2 + (2 + max w.length c.length - c.length) % 2) ++
          (derivHeader rest).1,
       spaces ((2 + max w.length c.length - w.length) / 2) ++ w ++
          spaces ((2 + max w.length c.length - w.length) / 2 + (2 + max w.length c.length - w.length) % 2) ++
          (derivHeader rest).2) := rfl

theorem dd_header_fields : ∀ (cw : List (Str × Str)),
    (∀ p ∈ cw, (p.1 ≠ [] ∧ 32 ∉ p.1) ∧ (p.2 ≠ [] ∧ 32 ∉ p.2)) →
    fields (derivHeader cw).1 = cw.map (·.1) ∧ fields (derivHeader cw).2 = cw.map (·.2)
  | [], _ => ⟨rfl, rfl⟩
  | (c, w) :: rest, h => by
    obtain ⟨ih1, ih2⟩ := dd_header_fields rest (fun p hp => h p (List.mem_cons_of_mem _ hp))
    obtain ⟨⟨hc1, hc2⟩, hw1, hw2⟩ := h (c, w) (List.mem_cons_self ..)
    rw [dd_header_cons]
    refine ⟨?_, ?_⟩
    · simp only [List.map_cons]
      rw [dd_fields_block hc1 hc2 (by omega), ih1]
    · simp only [List.map_cons]
      rw [dd_fields_block hw1 hw2 (by omega), ih2]

theorem dd_spaces_noNL (n : Nat) : 10 ∉ spaces n := by
  simp [spaces, cSpace]

theorem dd_header_noNL : ∀ (cw : List (Str × Str)), (∀ p ∈ cw, 10 ∉ p.1 ∧ 10 ∉ p.2) →
    10 ∉ (derivHeader cw).1 ∧ 10 ∉ (derivHeader cw).2
  | [], _ => ⟨by simp [derivHeader], by simp [derivHeader]⟩
  | (c, w) :: rest, h => by
    obtain ⟨ih1, ih2⟩ := dd_header_noNL rest (fun p hp => h p (List.mem_cons_of_mem _ hp))
    obtain ⟨hc, hw⟩ := h (c, w) (List.mem_cons_self ..)
    rw [dd_header_cons]
    simp only [List.mem_append, not_or]
    exact ⟨⟨⟨⟨dd_spaces_noNL _, hc⟩, dd_spaces_noNL _⟩, ih1⟩, ⟨⟨dd_spaces_noNL _, hw⟩, dd_spaces_noNL _⟩, ih2⟩

def dd_cw : Tree → List (Str × Str)
  | .leaf c tok _ _ => [(c.str, Token.getD tok (lit "word") [])]
  | .un _ _ _ ch => dd_cw ch
  | .bin _ _ _ _ l r => dd_cw l ++ dd_cw r

theorem dd_leafCatsWords : ∀ (t : Tree), AllToks C19.HasWord t → leafCatsWords t = .ok (dd_cw t)
  | .leaf c tok _ _, ⟨w, hw⟩ => by
    simp only [leafCatsWords, TextProps.get_of_get? hw, dd_cw, TextProps.getD_of_get? hw]
  | .un _ _ _ ch, h => dd_leafCatsWords ch h
  | .bin _ _ _ _ l r, h => by
    simp only [leafCatsWords, dd_cw, dd_leafCatsWords l h.1, dd_leafCatsWords r h.2]

theorem dd_cw_fields : ∀ (t : Tree), AllCats (fun c => Field c.str) t →
    AllToks (fun tok => ∃ w, Token.get? tok (lit "word") = some w ∧ Field w) t →
    ∀ p ∈ dd_cw t, Field p.1 ∧ Field p.2
  | .leaf c tok _ _, hc, ht, p, hp => by
    obtain ⟨w, hw, hf⟩ := ht
    simp only [dd_cw, List.mem_singleton] at hp
    subst hp
    rw [TextProps.getD_of_get? hw]
    exact ⟨hc, hf⟩
  | .un _ _ _ ch, hc, ht, p, hp => dd_cw_fields ch hc.2 ht p hp
  | .bin _ _ _ _ l r, hc, ht, p, hp => by
    simp only [dd_cw, List.mem_append] at hp
    rcases hp with hp | hp
    · exact dd_cw_fields l hc.2.1 ht.1 p hp
    · exact dd_cw_fields r hc.2.2 ht.2 p hp

def dd_total : List (Str × Str) → Nat
  | [] => 0
  | (c, w) :: rest => (2 + max w.length c.length) + dd_total rest

theorem dd_total_append (a b : List (Str × Str)) : dd_total (a ++ b) = dd_total a + dd_total b := by
  induction a with
  | nil => simp [dd_total]
  | cons p rest ih =>
    obtain ⟨c, w⟩ := p
    simp only [List.cons_append, dd_total, ih]
    omega

theorem dd_total_cw : ∀ t : Tree, dd_total (dd_cw t) = width t
  | .leaf .. => by simp [dd_cw, dd_total, width, leafWidth]
  | .un _ _ _ ch => dd_total_cw ch
  | .bin _ _ _ _ l r => by
    simp only [dd_cw, dd_total_append, width, dd_total_cw l, dd_total_cw r]

theorem dd_width_pos : ∀ t : Tree, 0 < width t
  | .leaf .. => by simp only [width, leafWidth]; omega
  | .un _ _ _ ch => dd_width_pos ch
  | .bin _ _ _ _ l r => by
    have := dd_width_pos l
    simp only [width]; omega

def dd_entries : Nat → List (Str × Str) → List ((Nat × Nat) × DView)
  | _, [] => []
  | off, (c, w) :: rest =>
    ((off, off + (2 + max w.length c.length)), DView.leaf c w)
      :: dd_entries (off + (2 + max w.length c.length)) rest

theorem dd_entries_append : ∀ (a b : List (Str × Str)) (off : Nat),
    dd_entries off (a ++ b) = dd_entries off a ++ dd_entries (off + dd_total a) b
  | [], b, off => by simp [dd_entries, dd_total]
  | (c, w) :: rest, b, off => by
    simp only [List.cons_append, dd_entries, dd_total, dd_entries_append rest b, Nat.add_assoc]

theorem dd_leafForest : ∀ (cw : List (Str × Str)) (off : Nat),
    leafForest off (cw.map (·.1)) (cw.map (·.2)) = some (dd_entries off cw)
  | [], _ => rfl
  | (c, w) :: rest, off => by
    simp only [List.map_cons, leafForest, dd_leafForest rest, dd_entries]

def dd_rule (lw wd : Nat) (y : Str) : Str := spaces lw ++ List.replicate wd 45 ++ y

def dd_catLine (p : Int) (cat : Str) : Str := spacesI p ++ cat

def dd_lines : Tree → Nat → List Str
  | .leaf .., _ => []
  | .un c _ y ch, lw =>
    dd_lines ch lw ++ [dd_rule lw (width ch) y, dd_catLine (((width ch : Int) - c.str.length) / 2 + lw) c.str]
  | .bin c _ y _ l r, lw =>
    dd_lines l lw ++ (dd_lines r (lw + width l) ++ [dd_rule lw (width l + width r) y,
      dd_catLine ((((width l + width r : Nat) : Int) - c.str.length) / 2 + lw) c.str])

theorem field_iff {s : Str} : Field s ↔ s ≠ [] ∧ C20.noneOf [32, 10] s := by
  simp [Field, C20.noneOf]

theorem Field.noNL {s : Str} (h : Field s) : 10 ∉ s := (field_iff.1 h).2.notMem (by decide)
theorem Field.noSp {s : Str} (h : Field s) : 32 ∉ s := (field_iff.1 h).2.notMem (by decide)
theorem SymOK.noNL {s : Str} (h : SymOK s) : 10 ∉ s := fun hm => (h.1 10 hm).2 rfl

theorem blockText_lines (ls : List Str) (h : ∀ l ∈ ls, 10 ∉ l) :
    splitOn 10 (blockText ls) = ls ++ [[]] := by
  have := splitOn_frontText 10 ls [] h
  rwa [List.append_nil] at this

theorem dd_rule_ok {lw wd : Nat} {y : Str} (hwd : 0 < wd) (hy : SymOK y) :
    dd_rule lw wd y ≠ [] ∧ 10 ∉ dd_rule lw wd y := by
  refine ⟨?_, ?_⟩
  · obtain ⟨n, rfl⟩ : ∃ n, wd = n + 1 := ⟨wd - 1, by omega⟩
    simp [dd_rule, List.replicate_succ]
  · simp only [dd_rule, List.mem_append, not_or]
    exact ⟨⟨dd_spaces_noNL _, by simp⟩, hy.noNL⟩

theorem dd_catLine_ok {p : Int} {cat : Str} (hc : Field cat) :
    dd_catLine p cat ≠ [] ∧ 10 ∉ dd_catLine p cat := by
  refine ⟨by simp [dd_catLine, hc.1], ?_⟩
  simp only [dd_catLine, List.mem_append, not_or]
  exact ⟨dd_spaces_noNL _, hc.noNL⟩

theorem dd_ruleLines_text : ∀ (t : Tree) (lw : Nat), ruleLines t lw = frontText 10 (dd_lines t lw)
  | .leaf .., _ => rfl
  | .un c _ y ch, lw => by
    simp only [ruleLines, dd_lines, frontText_append, frontText_cons, dd_ruleLines_text ch lw,
      dd_rule, dd_catLine]
    simp [frontText]
  | .bin c _ y _ l r, lw => by
    simp only [ruleLines, dd_lines, frontText_append, frontText_cons, dd_ruleLines_text l lw,
      dd_ruleLines_text r (lw + width l), dd_rule, dd_catLine]
    simp [frontText]

theorem dd_lines_ok : ∀ (t : Tree) (lw : Nat), AllCats (fun c => Field c.str) t → SymsOK t →
    ∀ l ∈ dd_lines t lw, l ≠ [] ∧ 10 ∉ l
  | .leaf .., _, _, _, l, hl => by simp [dd_lines] at hl
  | .un c _ y ch, lw, hc, hy, l, hl => by
    simp only [dd_lines, List.mem_append, List.mem_cons, List.not_mem_nil, or_false] at hl
    rcases hl with hl | rfl | rfl
    · exact dd_lines_ok ch lw hc.2 hy.2 l hl
    · exact dd_rule_ok (dd_width_pos ch) hy.1
    · exact dd_catLine_ok hc.1
  | .bin c _ y _ l' r, lw, hc, hy, l, hl => by
    simp only [dd_lines, List.mem_append, List.mem_cons, List.not_mem_nil, or_false] at hl
    rcases hl with hl | hl | rfl | rfl
    · exact dd_lines_ok l' lw hc.2.1 hy.2.1 l hl
    · exact dd_lines_ok r _ hc.2.2 hy.2.2 l hl
    · have := dd_width_pos l'
      exact dd_rule_ok (by omega) hy.1
    · exact dd_catLine_ok hc.1

theorem dd_reduce {forest : List ((Nat × Nat) × DView)} {lw wd : Nat} {y : Str} {p : Int} {cat : Str}
    (hwd : 0 < wd) (hy : SymOK y) (hc : Field cat) :
    reduce forest (dd_rule lw wd y) (dd_catLine p cat) = rewriteAt lw wd cat y forest := by
  unfold reduce dd_rule dd_catLine
  simp only [dd_rule_lw lw wd y hwd, dd_rule_drop, dd_countWhile_replicate 45 wd y hy.2,
    List.drop_left' List.length_replicate, dd_fields_catLine p cat hc.1 hc.noSp]

theorem dd_reduceAll_step (forest forest' : List ((Nat × Nat) × DView)) (rule catLine : Str) (rest : List Str)
    (h : reduce forest rule catLine = some forest') :
    reduceAll forest (rule :: catLine :: rest) = reduceAll forest' rest := by
  rw [reduceAll, h]

theorem dd_rewriteAt_skip {lw wd : Nat} {cat sym : Str} {F F' : List ((Nat × Nat) × DView)} :
    ∀ (P : List ((Nat × Nat) × DView)), (∀ e ∈ P, e.1.1 < lw) → rewriteAt lw wd cat sym F = some F' →
    rewriteAt lw wd cat sym (P ++ F) = some (P ++ F')
  | [], _, h => h
  | ((s, e), v) :: P, hP, h => by
    have hs : s ≠ lw := Nat.ne_of_lt (hP ((s, e), v) (List.mem_cons_self ..))
    have ih := dd_rewriteAt_skip P (fun e he => hP e (List.mem_cons_of_mem _ he)) h
    simp only [List.cons_append, rewriteAt, hs, if_false, ih]

theorem dd_rewriteAt_un (lw wd : Nat) (cat sym : Str) (v : DView) (S : List ((Nat × Nat) × DView)) :
    rewriteAt lw wd cat sym (((lw, lw + wd), v) :: S) = some (((lw, lw + wd), DView.un cat sym v) :: S) := by
  simp [rewriteAt]

/-- `h2`: with `w2 = 0` the first entry alone would end in column `lw + (w1 + w2)` and `rewriteAt` would build a
    unary node. -/
theorem dd_rewriteAt_bin (lw w1 w2 : Nat) (cat sym : Str) (v1 v2 : DView) (S : List ((Nat × Nat) × DView))
    (h2 : 0 < w2) :
    rewriteAt lw (w1 + w2) cat sym (((lw, lw + w1), v1) :: ((lw + w1, lw + w1 + w2), v2) :: S) =
      some (((lw, lw + (w1 + w2)), DView.bin cat sym v1 v2) :: S) := by
  have he : lw + w1 + w2 = lw + (w1 + w2) := by omega
  have h0 : w2 ≠ 0 := by omega
  simp [rewriteAt, he, h0]

/-- `P`: the forest entries left of the subtree (all start left of `lw`, so `rewriteAt` skips them), `S`: those to
    its right, `R`: the lines after the subtree's own. The rule lines of the subtree turn the leaf entries of its
    columns into the single entry of its view. -/
theorem dd_reduceAll_tree : ∀ (t : Tree) (lw : Nat) (P S : List ((Nat × Nat) × DView)) (R : List Str),
    AllCats (fun c => Field c.str) t → SymsOK t → (∀ e ∈ P, e.1.1 < lw) →
    reduceAll (P ++ (dd_entries lw (dd_cw t) ++ S)) (dd_lines t lw ++ R) =
      reduceAll (P ++ ((lw, lw + width t), viewDeriv t) :: S) R
  | .leaf c tok _ _, lw, P, S, R, _, _, _ => by
    simp only [dd_cw, dd_entries, dd_lines, width, leafWidth, viewDeriv, List.nil_append, List.cons_append]
  | .un c _ y ch, lw, P, S, R, hc, hy, hP => by
    simp only [dd_cw, dd_lines, width, viewDeriv, List.append_assoc, List.cons_append, List.nil_append]
    rw [dd_reduceAll_tree ch lw P S _ hc.2 hy.2 hP]
    apply dd_reduceAll_step
    rw [dd_reduce (dd_width_pos ch) hy.1 hc.1]
    exact dd_rewriteAt_skip P hP (dd_rewriteAt_un ..)
  | .bin c _ y _ l r, lw, P, S, R, hc, hy, hP => by
    have hl := dd_width_pos l
    have hr := dd_width_pos r
    simp only [dd_cw, dd_lines, width, viewDeriv, List.append_assoc, List.cons_append, List.nil_append,
      dd_entries_append, dd_total_cw]
    rw [dd_reduceAll_tree l lw P _ _ hc.2.1 hy.2.1 hP]
    have hP' : ∀ e ∈ P ++ [((lw, lw + width l), viewDeriv l)], e.1.1 < lw + width l := by
      intro e he
      rcases List.mem_append.1 he with he | he
      · have := hP e he; omega
      · rw [List.mem_singleton] at he; subst he; simp only; omega
    have ih := dd_reduceAll_tree r (lw + width l) (P ++ [((lw, lw + width l), viewDeriv l)]) S
      ([dd_rule lw (width l + width r) y,
        dd_catLine ((((width l + width r : Nat) : Int) - c.str.length) / 2 + lw) c.str] ++ R) hc.2.2 hy.2.2 hP'
    simp only [List.append_assoc, List.cons_append, List.nil_append] at ih
    rw [ih]
    apply dd_reduceAll_step
    rw [dd_reduce (by omega) hy.1 hc.1]
    exact dd_rewriteAt_skip P hP (dd_rewriteAt_bin lw _ _ _ _ _ _ _ hr)

theorem dd_derivOf_eq (t : Tree) (ht : AllToks C19.HasWord t) :
    derivOf t = .ok (rstripSp (derivHeader (dd_cw t)).1 ++
      10 :: (rstripSp (derivHeader (dd_cw t)).2 ++ 10 :: ruleLines t 0)) := by
  simp only [derivOf, dd_leafCatsWords t ht, derivRec_spec t 0 ht, List.append_assoc, List.cons_append,
    List.nil_append]

theorem dd_cw_ne : ∀ (t : Tree), dd_cw t ≠ []
  | .leaf .. => by simp [dd_cw]
  | .un _ _ _ ch => dd_cw_ne ch
  | .bin _ _ _ _ l r => by
    simp only [dd_cw, ne_eq, List.append_eq_nil_iff, not_and]
    exact fun h => absurd h (dd_cw_ne l)

def dd_docLines (t : Tree) : List Str :=
  rstripSp (derivHeader (dd_cw t)).1 :: rstripSp (derivHeader (dd_cw t)).2 :: dd_lines t 0

theorem dd_printed (t : Tree) (s : Str) (hc : AllCats (fun c => Field c.str) t)
    (ht : AllToks (fun tok => ∃ w, Token.get? tok (lit "word") = some w ∧ Field w) t) (hy : SymsOK t)
    (hs : derivOf t = .ok s) :
    s = frontText 10 (dd_docLines t) ∧ (∀ l ∈ dd_docLines t, l ≠ [] ∧ 10 ∉ l) ∧
      fields (derivHeader (dd_cw t)).1 = (dd_cw t).map (·.1) ∧
      fields (derivHeader (dd_cw t)).2 = (dd_cw t).map (·.2) := by
  have hF := dd_cw_fields t hc ht
  obtain ⟨hf1, hf2⟩ := dd_header_fields (dd_cw t)
    (fun p hp => ⟨⟨(hF p hp).1.1, (hF p hp).1.noSp⟩, (hF p hp).2.1, (hF p hp).2.noSp⟩)
  obtain ⟨hn1, hn2⟩ := dd_header_noNL (dd_cw t) (fun p hp => ⟨(hF p hp).1.noNL, (hF p hp).2.noNL⟩)
  -- a header line is not blank: its fields are one per leaf, and stripping the right end keeps them
  have hne : ∀ h : Str, fields h = (dd_cw t).map (·.1) ∨ fields h = (dd_cw t).map (·.2) → rstripSp h ≠ [] :=
    fun h hf h0 => by
      have : fields h = [] := by rw [← dd_fields_rstrip, h0]; rfl
      rcases hf with hf | hf <;> exact dd_cw_ne t (List.map_eq_nil_iff.1 (hf.symm.trans this))
  refine ⟨?_, List.forall_mem_cons.2 ⟨⟨hne _ (.inl hf1), dd_rstrip_noNL _ hn1⟩,
    List.forall_mem_cons.2 ⟨⟨hne _ (.inr hf2), dd_rstrip_noNL _ hn2⟩, dd_lines_ok t 0 hc hy⟩⟩, hf1, hf2⟩
  rw [(Except.ok.inj ((dd_derivOf_eq t (ht.mono fun _ ⟨w, hw, _⟩ => ⟨w, hw⟩)).symm.trans hs)).symm, dd_ruleLines_text,
    dd_docLines, frontText_cons, frontText_cons]

end Depccg.C07
