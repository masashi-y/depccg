import Depccg.Proofs.ExceptLemmas
import Depccg.Proofs.StrLemmas
import Depccg.Proofs.Lit

namespace Depccg.Print
open Str

variable {α : Type}

theorem catExcept_eq (f : α → Except Err Str) : ∀ xs : List α,
    catExcept f xs = (Cli.mapExcept f xs).map List.flatten
  | [] => rfl
  | x :: xs => by
    simp only [catExcept, Cli.mapExcept, catExcept_eq f xs]
    cases f x with
    | error e => rfl
    | ok s => cases Cli.mapExcept f xs <;> rfl

theorem catExcept_cons_ok {f : α → Except Err Str} {x : α} {xs : List α} {s r : Str}
    (hx : f x = .ok s) (hr : catExcept f xs = .ok r) : catExcept f (x :: xs) = .ok (s ++ r) := by
  simp [catExcept, hx, hr]

theorem catExcept_cons_inv {f : α → Except Err Str} {x : α} {xs : List α} {text : Str}
    (h : catExcept f (x :: xs) = .ok text) :
    ∃ s r, f x = .ok s ∧ catExcept f xs = .ok r ∧ text = s ++ r := by
  rw [catExcept_eq] at h ⊢
  obtain ⟨_, hz, rfl⟩ := Except.map_ok_inv h
  obtain ⟨s, ys, hx, hxs, rfl⟩ := Cli.mapExcept_cons_inv hz
  exact ⟨s, ys.flatten, hx, Except.map_ok hxs, rfl⟩

theorem catExcept_total (f : α → Except Err Str) (xs : List α) (h : ∀ x ∈ xs, ∃ s, f x = .ok s) :
    ∃ s, catExcept f xs = .ok s :=
  let ⟨ys, hys⟩ := Cli.mapExcept_total f xs h
  ⟨ys.flatten, catExcept_eq f xs ▸ Except.map_ok hys⟩

/-! The three printers below are `match inner with | .error e => .error e | .ok b => .ok (g b)`; each
  lemma says that this is `.ok s` exactly when `inner = .ok b` and `s = g b`, by the same proof (one
  lemma stated with such a `match` does not unify with the matchers of the three definitions). -/

theorem prologEnOne_ok_iff {t : Tree} {idx : Nat} {s : Str} : prologEnOne t idx = .ok s ↔
    ∃ body, prologEnRec t 1 = .ok body ∧ s = lit "ccg(" ++ Str.ofNat idx ++ lit ",\n" ++ body ++ lit ").\n" := by
  unfold prologEnOne
  split
  · next e he => exact ⟨(fun h => nomatch h), fun ⟨body, hb, _⟩ => nomatch he.symm.trans hb⟩
  · next body hb =>
    exact ⟨fun h => ⟨body, hb, (Except.ok.inj h).symm⟩,
      fun ⟨body', hb', e⟩ => Except.ok.inj (hb.symm.trans hb') ▸ e ▸ rfl⟩

theorem prologEn_ok_iff {batch : List (List Tree)} {text : Str} : prologEn batch = .ok text ↔
    ∃ body, catExcept (fun (p : Nat × Tree) => (prologEnOne p.2 p.1).map (· ++ [10])) (numbered batch) = .ok body ∧
      text = prologHeader ++ [10] ++ body := by
  unfold prologEn
  split
  · next e he => exact ⟨(fun h => nomatch h), fun ⟨body, hb, _⟩ => nomatch he.symm.trans hb⟩
  · next body hb =>
    exact ⟨fun h => ⟨body, hb, (Except.ok.inj h).symm⟩,
      fun ⟨body', hb', e⟩ => Except.ok.inj (hb.symm.trans hb') ▸ e ▸ rfl⟩

theorem prologJa_ok_iff {batch : List (List Tree)} {text : Str} : prologJa batch = .ok text ↔
    ∃ body, catExcept (fun (p : Nat × Tree) =>
        (prologJaRec p.2 1).map fun s => lit "ccg(" ++ Str.ofNat p.1 ++ lit "," ++ s ++ lit ").\n\n")
        (numbered batch) = .ok body ∧
      text = prologHeader ++ [10] ++ body := by
  unfold prologJa
  split
  · next e he => exact ⟨(fun h => nomatch h), fun ⟨body, hb, _⟩ => nomatch he.symm.trans hb⟩
  · next body hb =>
    exact ⟨fun h => ⟨body, hb, (Except.ok.inj h).symm⟩,
      fun ⟨body', hb', e⟩ => Except.ok.inj (hb.symm.trans hb') ▸ e ▸ rfl⟩

theorem header_false (n : Nat) (sc : Str) :
    header false n sc = lit "ID=" ++ Str.ofNat n ++ lit ", log probability=" ++ sc := rfl

theorem header_true (n : Nat) (sc : Str) :
    header true n sc = lit "# ID=" ++ Str.ofNat n ++ lit "\n# log probability=" ++ sc := rfl

/-- the header of a record of the line formats is one line (the conll header, `header true`, is two) -/
theorem header_no10 (n : Nat) {sc : Str} (hsc : 10 ∉ sc) : 10 ∉ header false n sc := by
  simp only [header_false, List.mem_append, not_or]
  exact ⟨⟨⟨by decide_lit, Str.ofNat_notMem n (by decide)⟩, by decide_lit⟩, hsc⟩

end Depccg.Print

namespace Depccg.CliProps
open Depccg Cli Str Print FileProps

theorem addNewline_inv {r : Except Err Str} {text : Str} (h : addNewline r = .ok text) :
    ∃ t, r = .ok t ∧ text = t ++ [10] := by
  cases r with
  | error e => cases h
  | ok s => cases h; exact ⟨s, rfl, rfl⟩

theorem addNewline_ok {r : Except Err Str} (h : ∃ s, r = .ok s) : ∃ s, addNewline r = .ok s := by
  obtain ⟨s, rfl⟩ := h
  exact ⟨_, rfl⟩

theorem header_lines (n : Nat) {sc : Str} (hsc : 10 ∉ sc) :
    splitOn 10 (header false n sc) = [header false n sc] :=
  splitOn_of_notMem 10 (header_no10 n hsc)

/-- records given as (sentence number, score text, body) -/
def docLines (conll : Bool) (out : List (Nat × Str × Str)) : List Str :=
  out.flatMap fun r => splitOn 10 (header conll r.1 r.2.1) ++ splitOn 10 r.2.2

theorem docLines_cons (conll : Bool) (r : Nat × Str × Str) (out : List (Nat × Str × Str)) :
    docLines conll (r :: out) =
      splitOn 10 (header conll r.1 r.2.1) ++ splitOn 10 r.2.2 ++ docLines conll out :=
  List.flatMap_cons

/-- `toStringLines` is the case `recs = numbered batch`; no condition on the score texts or the bodies
    is needed, since `splitOn` distributes over `a ++ 10 :: b` -/
theorem toStringLines_lines (fmt : Tree → Except Err Str) (conll : Bool) :
    ∀ (recs : List (Nat × (Tree × Str))) (text : Str),
    catExcept (fun (p : Nat × (Tree × Str)) =>
      (fmt p.2.1).map fun s => header conll p.1 p.2.2 ++ [10] ++ s ++ [10]) recs = .ok text →
    ∃ out, Forall2 (fun p r => r.1 = p.1 ∧ r.2.1 = p.2.2 ∧ fmt p.2.1 = .ok r.2.2) recs out ∧
      ∀ rest, splitOn 10 (text ++ rest) = docLines conll out ++ splitOn 10 rest
  | [], text, h => by
    cases h
    exact ⟨[], .nil, fun _ => rfl⟩
  | p :: recs, text, h => by
    obtain ⟨_, r, h1, h2, rfl⟩ := catExcept_cons_inv h
    obtain ⟨s, hs, rfl⟩ := Except.map_ok_inv h1
    obtain ⟨out, hf, hl⟩ := toStringLines_lines fmt conll recs r h2
    refine ⟨(p.1, p.2.2, s) :: out, .cons ⟨rfl, rfl, hs⟩ hf, fun rest => ?_⟩
    have e : header conll p.1 p.2.2 ++ [10] ++ s ++ [10] ++ r ++ rest =
        header conll p.1 p.2.2 ++ 10 :: (s ++ 10 :: (r ++ rest)) := by simp
    rw [e, splitOn_append_sep, splitOn_append_sep, hl, docLines_cons]
    simp

end Depccg.CliProps
