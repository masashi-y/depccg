/-
  C20  helper lemmas. The PTB reader is followed one blank-separated field at a time: an opening
  field `(cat` pushes a category, a word field with `k` closing parentheses runs `closeOnce` `k`
  times; the fields of a subtree leave its image `ptbImg` on the stack. `ptbImg` is the instance of
  `reread` for this reader; the `Except`-valued `ptbImage` of the statements is `.ok` of it (`ptbImage_eq`).
  Truncated lines are rejected by counting: the category items on the stack are the balance
  (`bal`) of the fields read, and a proper non-empty prefix of the fields of a printed tree has a
  positive balance.
  The Japanese cursor reader is followed character by character; every statement about its index says
  what is left to read from there (`line.drop idx' = post`).
-/
import Depccg.Props.C20Defs
import Depccg.Proofs.C08Lemmas

namespace Depccg.C20
open Depccg Str Print Read TextProps C08
open Depccg.C07 (nodes nodes_pos)
open Depccg.C19 (HasWord)

def wordOf (tok : Token) : Str := denormalize (Token.getD tok (lit "word") [])

/-- not `C07.closers` (` )` repeated, the closers of the conll fragments) -/
def closers (k : Nat) : Str := List.replicate k cRPar

@[simp] theorem closers_length (k : Nat) : (closers k).length = k := by simp [closers]
theorem closers_succ (k : Nat) : closers (k + 1) = cRPar :: closers k := rfl
theorem closers_succ' (k : Nat) : closers (k + 1) = closers k ++ [cRPar] := by
  simp [closers, List.replicate_succ']

/-- the fields of a printed subtree, with `k` further closing parentheses on the last one -/
def ptbFields : Tree → Nat → List Str
  | .leaf c tok _ _, k => [cLPar :: c.str, wordOf tok ++ closers (k + 1)]
  | .un c _ _ ch, k => (cLPar :: c.str) :: ptbFields ch (k + 1)
  | .bin c _ _ _ l r, k => (cLPar :: c.str) :: (ptbFields l 0 ++ ptbFields r (k + 1))

theorem ptbFields_ne_nil (t : Tree) (k : Nat) : ptbFields t k ≠ [] := by
  cases t <;> simp [ptbFields]

theorem hasWord_of_ptbTokOK {t : Tree} (h : AllToks PtbTokOK t) : AllToks HasWord t :=
  h.mono fun _ h => h.imp fun _ h => h.1

theorem ptbRec_fields : ∀ {t : Tree}, AllToks HasWord t →
    ∃ s, ptbRec t = .ok s ∧ ∀ k, joinSep cSpace (ptbFields t k) = s ++ closers k
  | .leaf c tok _ _, ⟨w, hw⟩ =>
    ⟨_, by simp only [ptbRec, get_of_get? hw]; rfl,
      fun k => by simp [ptbFields, joinSep, wordOf, getD_of_get? hw, closers_succ]⟩
  | .un c _ _ ch, h => by
    obtain ⟨a, ha, hf⟩ := ptbRec_fields (t := ch) h
    refine ⟨_, by simp only [ptbRec, ha]; rfl, fun k => ?_⟩
    rw [ptbFields, joinSep_cons _ _ (ptbFields_ne_nil _ _), hf]
    simp [closers_succ]
  | .bin c _ _ _ l r, h => by
    obtain ⟨a, ha, hfa⟩ := ptbRec_fields (t := l) h.1
    obtain ⟨b, hb, hfb⟩ := ptbRec_fields (t := r) h.2
    refine ⟨_, by simp only [ptbRec, ha, hb]; rfl, fun k => ?_⟩
    rw [ptbFields, joinSep_cons _ _ (by simp [ptbFields_ne_nil]),
      joinSep_append _ (ptbFields_ne_nil _ _) (ptbFields_ne_nil _ _), hfa, hfb]
    simp [closers, List.replicate_succ]

/-- what the reader needs of the word `w` of a field `w ++ closers m`, so that it is taken for a word and the
    `)`s after it are exactly the `m` closers -/
def WordField (w : Str) : Prop := w ≠ [] ∧ w.head? ≠ some cLPar ∧ w.getLast? ≠ some cRPar

def trailR : Str → Nat
  | [] => 0
  | x :: r => if x = cRPar then trailR r + 1 else 0

def trail (s : Str) : Nat := trailR s.reverse

theorem trail_concat_close (s : Str) : trail (s ++ [cRPar]) = trail s + 1 := by
  simp [trail, trailR]

theorem trail_of_last_ne (s : Str) (c : Nat) (h : s.getLast? = some c) (hc : c ≠ cRPar) :
    trail s = 0 := by
  obtain ⟨init, rfl⟩ := List.getLast?_eq_some_iff.1 h
  simp [trail, trailR, hc]

theorem trail_of_last_close (s : Str) (h : s.getLast? = some cRPar) :
    trail s = trail s.dropLast + 1 := by
  obtain ⟨init, rfl⟩ := List.getLast?_eq_some_iff.1 h
  rw [List.dropLast_concat]
  exact trail_concat_close _

theorem trail_word (w : Str) (hl : w.getLast? ≠ some cRPar) : ∀ m, trail (w ++ closers m) = m := by
  intro m
  induction m with
  | zero =>
    simp only [closers, List.replicate_zero, List.append_nil]
    cases h : w.getLast? with
    | none => rw [List.getLast?_eq_none_iff.1 h]; rfl
    | some c => exact trail_of_last_ne w c h (fun e => hl (by rw [h, e]))
  | succ m ih =>
    rw [closers_succ', ← List.append_assoc, trail_concat_close, ih]

/-- an opening field `(cat`, or a word followed by at least one `)`: every field of a printed tree is one
    (`ptbFields_kind`), and that is all `wt_dropLast_of_kind` needs -/
def FieldKind (x : Str) : Prop :=
  (∃ cs, cs ≠ [] ∧ x = cLPar :: cs) ∨ (∃ w m, WordField w ∧ x = w ++ closers (m + 1))

theorem wordOf_facts {tok : Token} (h : PtbTokOK tok) :
    WordField (wordOf tok) ∧ noneOf [32, 9, 10, 13, 92] (wordOf tok) := by
  obtain ⟨w, hw, hok⟩ := h
  rw [wordOf, getD_of_get? hw]
  exact ⟨⟨denormalize_ne_nil hok.1.1, hok.2.1, hok.2.2⟩, denormalize_noneOf hok.1⟩

theorem ptbFields_kind : ∀ (t : Tree), AllCats CatOK t → AllToks PtbTokOK t →
    ∀ k, ∀ x ∈ ptbFields t k, FieldKind x ∧ noneOf [32, 10] x := by
  intro t
  have hcat : ∀ c : Cat, CatOK c → FieldKind (cLPar :: c.str) ∧ noneOf [32, 10] (cLPar :: c.str) :=
    fun c hc => ⟨Or.inl ⟨c.str, catStr_ne_nil c hc.1, rfl⟩,
      noneOf_cons.2 ⟨by decide, (catOK_noneOf hc).mono (by decide)⟩⟩
  induction t with
  | leaf c tok sS sY =>
    intro hc htok k x hx
    obtain ⟨hw, h2⟩ := wordOf_facts htok
    simp only [ptbFields, List.mem_cons, List.not_mem_nil, or_false] at hx
    rcases hx with rfl | rfl
    · exact hcat c hc
    · exact ⟨Or.inr ⟨_, k, hw, rfl⟩,
        noneOf_append.2 ⟨h2.mono (by decide), noneOf_replicate (by decide) _⟩⟩
  | un c sS sY ch ih =>
    intro hc htok k x hx
    simp only [ptbFields, List.mem_cons] at hx
    rcases hx with rfl | hx
    · exact hcat c hc.1
    · exact ih hc.2 htok _ x hx
  | bin c sS sY hd l r ihl ihr =>
    intro hc htok k x hx
    simp only [ptbFields, List.mem_cons, List.mem_append] at hx
    rcases hx with rfl | hx | hx
    · exact hcat c hc.1
    · exact ihl hc.2.1 htok.1 _ x hx
    · exact ihr hc.2.2 htok.2 _ x hx

/-- the work `reduce` does for one closing parenthesis: the text of `ptbReduce` after its recursive call
    (`ptbReduce_close`) -/
def closeOnce (lang : Lang) (st1 : PState) : Except Err PState :=
  match st1.stack with
  | [] => .error .indexError
  | .word w :: rest =>
    match rest with
    | [] => .error .indexError
    | .cat c :: rest2 =>
      .ok { st1 with stack := .tree (Tree.mkTerminal [(lit "word", w)] c) :: rest2 }
    | _ :: _ => .error .unsupported
  | .cat _ :: _ => .error .runtime
  | .tree t :: rest =>
    match popTrees (.tree t :: rest) [] with
    | .error e => .error e
    | .ok (children, rest2) =>
      match rest2 with
      | [] => .error .indexError
      | .cat c :: rest3 =>
        match children with
        | [ch] => .ok { st1 with stack := .tree (Tree.mkUnary c ch) :: rest3 }
        | [r, l] =>
          match guess lang c l.cat r.cat with
          | .error e => .error e
          | .ok rule =>
            .ok { st1 with stack := .tree (.bin c rule.opString rule.opSymbol rule.headLeft l r) :: rest3 }
        | _ => .error .runtime
      | _ :: _ => .error .unsupported

def closeN (lang : Lang) : Nat → PState → Except Err PState
  | 0, st => .ok st
  | k + 1, st =>
    match closeN lang k st with
    | .error e => .error e
    | .ok st1 => closeOnce lang st1

theorem closeN_succ' (lang : Lang) (k : Nat) (st : PState) :
    closeN lang (k + 1) st =
      match closeOnce lang st with
      | .error e => .error e
      | .ok st1 => closeN lang k st1 := by
  induction k with
  | zero =>
    simp only [closeN]
    cases closeOnce lang st <;> rfl
  | succ k ih =>
    rw [closeN, ih]
    cases h : closeOnce lang st with
    | error e => rfl
    | ok st1 => simp only [closeN]

theorem ptbReduce_close (lang : Lang) (fuel : Nat) (item : Str) (st : PState)
    (h : item.getLast? = some cRPar) :
    ptbReduce lang (fuel + 1) item st =
      match ptbReduce lang fuel item.dropLast st with
      | .error e => .error e
      | .ok st1 => closeOnce lang st1 := by
  rw [ptbReduce]
  simp only [h, bne_self_eq_false, Bool.false_eq_true, if_false]
  cases ptbReduce lang fuel item.dropLast st with
  | error e => rfl
  | ok st1 => rfl

theorem ptbReduce_word (lang : Lang) (w : Str) (st : PState) (hne : w ≠ [])
    (hl : w.getLast? ≠ some cRPar) : ∀ (k fuel : Nat), k < fuel →
    ptbReduce lang fuel (w ++ closers k) st =
      closeN lang k { stack := .word w :: st.stack, tokens := st.tokens ++ [[(lit "word", w)]] } := by
  intro k
  induction k with
  | zero =>
    intro fuel hf
    cases fuel with
    | zero => omega
    | succ f =>
      simp only [closers, List.replicate_zero, List.append_nil, closeN]
      rw [ptbReduce]
      cases hg : w.getLast? with
      | none => exact absurd (List.getLast?_eq_none_iff.1 hg) hne
      | some c =>
        have hc : c ≠ cRPar := fun e => hl (by rw [hg, e])
        simp [hc]
  | succ k ih =>
    intro fuel hf
    cases fuel with
    | zero => omega
    | succ f =>
      have e : w ++ closers (k + 1) = (w ++ closers k) ++ [cRPar] := by
        rw [closers_succ']; simp
      rw [e, ptbReduce_close lang f _ st (by simp), List.dropLast_concat, ih f (by omega)]
      rfl

theorem ptbLoop_open (lang : Lang) {c : Cat} (hc : C05.WF c) {rest : List Str} {st : PState} :
    ptbLoop lang ((cLPar :: c.str) :: rest) st =
      ptbLoop lang rest { stack := .cat c :: st.stack, tokens := st.tokens } := by
  rw [ptbLoop]
  simp [C05.parse_print c hc]

theorem getLast?_append_closers (w : Str) (k : Nat) :
    (w ++ closers (k + 1)).getLast? = some cRPar := by
  rw [closers_succ', ← List.append_assoc]
  simp

theorem ptbLoop_word (lang : Lang) (w : Str) (k : Nat) (rest : List Str) (st : PState) (hw : WordField w) :
    ptbLoop lang ((w ++ closers (k + 1)) :: rest) st =
      match closeN lang (k + 1)
        { stack := .word w :: st.stack, tokens := st.tokens ++ [[(lit "word", w)]] } with
      | .error e => .error e
      | .ok st' => ptbLoop lang rest st' := by
  obtain ⟨hne, hh, hl⟩ := hw
  cases w with
  | nil => exact absurd rfl hne
  | cons c0 tl =>
    have hc0 : c0 ≠ cLPar := fun e => hh (by simp [e])
    have hlast := getLast?_append_closers (c0 :: tl) k
    simp only [List.cons_append] at hlast ⊢
    rw [ptbLoop]
    simp only [beq_iff_eq, hc0, if_false, hlast, if_true]
    have := ptbReduce_word lang (c0 :: tl) st hne hl (k + 1)
      ((c0 :: (tl ++ closers (k + 1))).length + 1) (by simp; omega)
    simp only [List.cons_append] at this
    rw [this]
    rfl

theorem closeOnce_leaf (lang : Lang) (w : Str) (c : Cat) (rest : List PItem) (tk : List Token) :
    closeOnce lang { stack := .word w :: .cat c :: rest, tokens := tk } =
      .ok { stack := .tree (Tree.mkTerminal [(lit "word", w)] c) :: rest, tokens := tk } := rfl

theorem closeOnce_un (lang : Lang) (ch : Tree) (c : Cat) (rest : List PItem) (tk : List Token) :
    closeOnce lang { stack := .tree ch :: .cat c :: rest, tokens := tk } =
      .ok { stack := .tree (Tree.mkUnary c ch) :: rest, tokens := tk } := rfl

theorem closeOnce_bin (lang : Lang) (l r : Tree) (c : Cat) (rule : RuleRes) (rest : List PItem)
    (tk : List Token) (h : guess lang c l.cat r.cat = .ok rule) :
    closeOnce lang { stack := .tree r :: .tree l :: .cat c :: rest, tokens := tk } =
      .ok { stack := .tree (.bin c rule.opString rule.opSymbol rule.headLeft l r) :: rest,
            tokens := tk } := by
  simp only [closeOnce, popTrees, List.nil_append, List.cons_append, h]

def ptbTok (tok : Token) : Token := [(lit "word", wordOf tok)]

/-- what `ptbImage` returns under the hypotheses of the round trip (`ptbImage_eq`); the head flag is the
    looked-up rule's: the format has no head field -/
abbrev ptbImg (lang : Lang) : Tree → Tree := reread lang ptbTok lexUn fun _ g => g

theorem ptbImage_eq (lang : Lang) : ∀ {t : Tree}, AllCats C05.WF t → AllCats (OneSystem lang) t →
    AllToks HasWord t → ptbImage lang t = .ok (ptbImg lang t)
  | .leaf .., _, _, ⟨w, hw⟩ => by simp only [ptbImage, reread, ptbTok, wordOf, get_of_get? hw, getD_of_get? hw]
  | .un .., hw, ho, ht => by simp only [ptbImage, reread, lexUn, Tree.mkUnary, ptbImage_eq lang hw.2 ho.2 ht]
  | .bin c _ _ _ l r, hw, ho, ht => by
    obtain ⟨rule, hg⟩ := guess_kids hw ho
    simp only [ptbImage, ptbImage_eq lang hw.2.1 ho.2.1 ht.1, ptbImage_eq lang hw.2.2 ho.2.2 ht.2, reread_cat, hg,
      reread_bin hg]

theorem ptbLoop_tree (lang : Lang) : ∀ (t : Tree), AllCats CatOK t → AllCats (OneSystem lang) t →
    AllToks PtbTokOK t → ∀ (k : Nat) (st : PState) (rest : List Str),
      ptbLoop lang (ptbFields t k ++ rest) st =
        match closeN lang k { stack := .tree (ptbImg lang t) :: st.stack,
                              tokens := st.tokens ++ (ptbImg lang t).tokens } with
        | .error e => .error e
        | .ok st' => ptbLoop lang rest st' := by
  intro t
  induction t with
  | leaf c tok sS sY =>
    intro hc _ htok k st rest
    simp only [ptbFields, List.cons_append, List.nil_append]
    rw [ptbLoop_open lang hc.1, ptbLoop_word lang _ k _ _ (wordOf_facts htok).1,
      closeN_succ', closeOnce_leaf]
    rfl
  | un c sS sY ch ih =>
    intro hc hs htok k st rest
    simp only [ptbFields, List.cons_append]
    rw [ptbLoop_open lang hc.1.1, ih hc.2 hs.2 htok, closeN_succ', closeOnce_un]
    rfl
  | bin c sS sY hd l r ihl ihr =>
    intro hc hs htok k st rest
    obtain ⟨rule, hg⟩ := guess_kids (catOK_wf hc) hs
    simp only [ptbFields, List.cons_append, List.append_assoc]
    rw [ptbLoop_open lang hc.1.1, ihl hc.2.1 hs.2.1 htok.1]
    simp only [closeN]
    have e : ptbImg lang (.bin c sS sY hd l r) =
        .bin c rule.opString rule.opSymbol rule.headLeft (ptbImg lang l) (ptbImg lang r) := reread_bin hg
    rw [ihr hc.2.2 hs.2.2 htok.2, closeN_succ', closeOnce_bin lang _ _ c rule _ _ (by rw [reread_cat, reread_cat, hg]), e]
    simp only [Tree.tokens, List.append_assoc]

theorem lit_root : lit "(ROOT " = [40, 82, 79, 79, 84, 32] := by decide
theorem lit_root' : lit "(ROOT" = [40, 82, 79, 79, 84] := by decide

theorem parsePtb_body (lang : Lang) (body : Str) (z : Nat) :
    parsePtb lang (lit "(ROOT " ++ body ++ [z]) =
      match ptbLoop lang (splitOn cSpace body) { stack := [], tokens := [] } with
      | .error .assertion => .error .runtime
      | .error e => .error e
      | .ok st =>
        match st.stack with
        | [.tree t] => .ok (t, st.tokens)
        | _ => .error .runtime := by
  unfold parsePtb
  have h1 : startsWith (lit "(ROOT " ++ body ++ [z]) (lit "(ROOT ") = true := by
    rw [List.append_assoc]; exact startsWith_append _ _
  have h2 : ((lit "(ROOT " ++ body ++ [z]).take ((lit "(ROOT " ++ body ++ [z]).length - 1)).drop 6
      = body := by
    rw [← List.dropLast_eq_take, List.dropLast_concat, lit_root]
    rfl
  simp only [h1, Bool.not_true, Bool.false_eq_true, if_false, h2]
  rfl

theorem ptbOf_fields {t : Tree} (h : AllToks HasWord t) :
    ptbOf t = .ok (lit "(ROOT " ++ joinSep cSpace (ptbFields t 0) ++ [cRPar]) := by
  obtain ⟨body, hb, hf⟩ := ptbRec_fields h
  rw [(hf 0).trans (List.append_nil body)]
  simp only [ptbOf, hb]

theorem ptbFields_split (t : Tree) (hc : AllCats CatOK t) (htok : AllToks PtbTokOK t) (k : Nat) :
    splitOn cSpace (joinSep cSpace (ptbFields t k)) = ptbFields t k :=
  splitOn_joinSep _ _ (ptbFields_ne_nil _ _) fun f hf => (ptbFields_kind t hc htok k f hf).2.notMem (by decide)

/-- the `1`: the `)` that closes `(ROOT` is on the last field -/
theorem ptbOf_split {t : Tree} {s : Str} (hc : AllCats CatOK t) (htok : AllToks PtbTokOK t)
    (h : ptbOf t = .ok s) : splitOn cSpace s = lit "(ROOT" :: ptbFields t 1 := by
  obtain ⟨body, hb, hf⟩ := ptbRec_fields (hasWord_of_ptbTokOK htok)
  simp only [ptbOf, hb] at h
  cases h
  have e : lit "(ROOT " ++ body ++ [cRPar] = lit "(ROOT" ++ cSpace :: joinSep cSpace (ptbFields t 1) := by
    rw [hf 1, lit_root, lit_root']
    simp [closers, cSpace]
  rw [e, splitOn_sep cSpace (by decide), ptbFields_split t hc htok 1]

def cats : List PItem → Nat
  | [] => 0
  | .cat _ :: r => cats r + 1
  | _ :: r => cats r

def wt : Str → Int
  | [] => 0
  | c0 :: r => if c0 = cLPar then 1 else - (trail (c0 :: r) : Int)

def bal : List Str → Int
  | [] => 0
  | x :: r => wt x + bal r

theorem bal_append (a b : List Str) : bal (a ++ b) = bal a + bal b := by
  induction a with
  | nil => simp [bal]
  | cons x r ih => simp only [List.cons_append, bal, ih]; omega

theorem wt_open (cs : Str) : wt (cLPar :: cs) = 1 := by simp [wt]

theorem wt_word (w : Str) (m : Nat) (hw : WordField w) : wt (w ++ closers m) = - (m : Int) := by
  obtain ⟨hne, hh, hl⟩ := hw
  cases w with
  | nil => exact absurd rfl hne
  | cons c0 tl =>
    have hc0 : c0 ≠ cLPar := fun e => hh (by simp [e])
    have := trail_word (c0 :: tl) hl m
    simp only [List.cons_append] at this
    simp only [List.cons_append, wt, hc0, if_false, this]

/-! The reader removes a category item only when it closes a parenthesis. -/

theorem popTrees_cats : ∀ (st : List PItem) (acc ch : List Tree) (rest : List PItem),
    popTrees st acc = .ok (ch, rest) → cats rest = cats st
  | [], _, _, _, h => by cases h
  | .tree t :: r, acc, ch, rest, h => popTrees_cats r _ ch rest h
  | .cat c :: r, _, _, _, h => by cases h; rfl
  | .word w :: r, _, _, _, h => by cases h; rfl

theorem closeOnce_cats (lang : Lang) : ∀ (st st' : PState), closeOnce lang st = .ok st' →
    cats st'.stack + 1 = cats st.stack
  | ⟨[], _⟩, _, h => by cases h
  | ⟨[.word _], _⟩, _, h => by cases h
  | ⟨.word _ :: .cat _ :: _, _⟩, _, h => by cases h; rfl
  | ⟨.word _ :: .word _ :: _, _⟩, _, h => by cases h
  | ⟨.word _ :: .tree _ :: _, _⟩, _, h => by cases h
  | ⟨.cat _ :: _, _⟩, _, h => by cases h
  | ⟨.tree t :: rest, tk⟩, st', h => by
    simp only [closeOnce] at h
    split at h
    · cases h
    · next children rest2 hpop =>
      have hc := popTrees_cats _ _ _ _ hpop
      split at h
      · cases h
      · split at h
        · cases h; exact hc
        · split at h
          · cases h
          · cases h; exact hc
        · cases h
      · cases h

theorem ptbReduce_cats (lang : Lang) : ∀ (fuel : Nat) (item : Str) (st st' : PState),
    ptbReduce lang fuel item st = .ok st' → cats st'.stack + trail item = cats st.stack := by
  intro fuel
  induction fuel with
  | zero => intro item st st' h; simp [ptbReduce] at h
  | succ f ih =>
    intro item st st' h
    cases hg : item.getLast? with
    | none => simp [ptbReduce, hg] at h
    | some c =>
      by_cases hc : c = cRPar
      · subst hc
        rw [ptbReduce_close lang f item st hg] at h
        cases hr : ptbReduce lang f item.dropLast st with
        | error e => simp [hr] at h
        | ok st1 =>
          simp only [hr] at h
          have h1 := ih _ _ _ hr
          have h2 := closeOnce_cats lang _ _ h
          rw [trail_of_last_close item hg]
          omega
      · rw [ptbReduce] at h
        simp only [hg, bne_iff_ne, ne_eq, hc, not_false_eq_true, if_true] at h
        injection h with h
        subst h
        rw [trail_of_last_ne item c hg hc]
        simp [cats]

theorem ptbLoop_cats (lang : Lang) : ∀ (items : List Str) (st st' : PState),
    ptbLoop lang items st = .ok st' → (cats st'.stack : Int) = cats st.stack + bal items := by
  intro items
  induction items with
  | nil =>
    intro st st' h
    simp only [ptbLoop] at h
    injection h with h
    subst h
    simp [bal]
  | cons item rest ih =>
    intro st st' h
    cases item with
    | nil => simp [ptbLoop] at h
    | cons c0 tl =>
      rw [ptbLoop] at h
      by_cases hc0 : c0 = cLPar
      · subst hc0
        simp only [beq_self_eq_true, if_true] at h
        cases hp : Cat.parse tl with
        | error e => simp [hp] at h
        | ok c =>
          simp only [hp] at h
          have := ih _ _ h
          simp only [cats] at this
          simp only [bal, wt_open]
          omega
      · simp only [beq_iff_eq, hc0, if_false] at h
        split at h
        · cases hr : ptbReduce lang ((c0 :: tl).length + 1) (c0 :: tl) st with
          | error e => rw [hr] at h; exact absurd h (by simp)
          | ok st1 =>
            rw [hr] at h
            simp only [] at h
            have h1 := ih _ _ h
            have h2 := ptbReduce_cats lang _ _ _ _ hr
            simp only [bal, wt, hc0, if_false]
            omega
        · exact absurd h (by simp)

theorem bal_fields : ∀ (t : Tree), AllToks PtbTokOK t →
    ∀ k, bal (ptbFields t k) = - (k : Int) := by
  intro t
  induction t with
  | leaf c tok sS sY =>
    intro htok k
    simp only [ptbFields, bal, wt_open, wt_word _ _ (wordOf_facts htok).1]
    omega
  | un c sS sY ch ih =>
    intro htok k
    simp only [ptbFields, bal, wt_open, ih htok]
    omega
  | bin c sS sY hd l r ihl ihr =>
    intro htok k
    simp only [ptbFields, bal, bal_append, wt_open, ihl htok.1, ihr htok.2]
    omega

theorem bal_prefix : ∀ (t : Tree), AllToks PtbTokOK t →
    ∀ k j, j < (ptbFields t k).length →
      0 ≤ bal ((ptbFields t k).take j) ∧ (0 < j → 1 ≤ bal ((ptbFields t k).take j)) := by
  intro t
  induction t with
  | leaf c tok sS sY =>
    intro _ k j hj
    simp only [ptbFields, List.length_cons, List.length_nil] at hj
    match j, hj with
    | 0, _ => simp [bal]
    | 1, _ => simp [ptbFields, bal, wt_open]
  | un c sS sY ch ih =>
    intro htok k j hj
    cases j with
    | zero => simp [bal]
    | succ j =>
      simp only [ptbFields, List.length_cons] at hj
      have := (ih htok (k + 1) j (by omega)).1
      simp only [ptbFields, List.take_succ_cons, bal, wt_open]
      omega
  | bin c sS sY hd l r ihl ihr =>
    intro htok k j hj
    cases j with
    | zero => simp [bal]
    | succ j =>
      simp only [ptbFields, List.length_cons, List.length_append] at hj
      simp only [ptbFields, List.take_succ_cons, bal, wt_open, List.take_append, bal_append]
      by_cases hlt : j < (ptbFields l 0).length
      · have h1 := (ihl htok.1 0 j hlt).1
        have h2 : j - (ptbFields l 0).length = 0 := by omega
        rw [h2]
        simp only [List.take_zero, bal]
        omega
      · have h1 : (ptbFields l 0).take j = ptbFields l 0 := List.take_of_length_le (by omega)
        have h2 := bal_fields l htok.1 0
        have h3 := (ihr htok.2 (k + 1) (j - (ptbFields l 0).length) (by omega)).1
        rw [h1, h2]
        omega

theorem wt_dropLast_of_kind (x : Str) (h : FieldKind x) : wt x ≤ wt x.dropLast := by
  rcases h with ⟨cs, hcs, rfl⟩ | ⟨w, m, hw, rfl⟩
  · rw [List.dropLast_cons_of_ne_nil hcs, wt_open, wt_open]
    omega
  · rw [closers_succ', ← List.append_assoc, List.dropLast_concat, List.append_assoc,
      ← closers_succ', wt_word _ _ hw, wt_word _ _ hw]
    omega

theorem kind_ne_nil (x : Str) (h : FieldKind x) : x ≠ [] := by
  rcases h with ⟨cs, _, rfl⟩ | ⟨w, m, hw, rfl⟩
  · simp
  · simp [hw.1]

theorem parsePtb_short1 (lang : Lang) : ∃ e, parsePtb lang [] = .error e := ⟨_, rfl⟩
theorem parsePtb_short2 (lang : Lang) : ∃ e, parsePtb lang (lit "(ROOT") = .error e := ⟨_, rfl⟩

theorem parsePtb_unbalanced (lang : Lang) (body : Str) (z : Nat)
    (h : 1 ≤ bal (splitOn cSpace body)) :
    ∃ e, parsePtb lang (lit "(ROOT " ++ body ++ [z]) = .error e := by
  rw [parsePtb_body]
  cases hl : ptbLoop lang (splitOn cSpace body) { stack := [], tokens := [] } with
  | error e => cases e <;> exact ⟨_, rfl⟩
  | ok st =>
    have hc := ptbLoop_cats lang _ _ _ hl
    simp only [cats] at hc
    have hpos : 1 ≤ cats st.stack := by omega
    simp only []
    split
    · next t hst => rw [hst] at hpos; simp [cats] at hpos
    · exact ⟨_, rfl⟩

theorem cutSuffix_suffix (cs suf : Str) (h : noneOf [cUnderscore] cs) :
    cutSuffix (cs ++ cUnderscore :: suf) = cs := by
  have hn : cUnderscore ∉ cs := fun hm => h _ hm (by simp)
  unfold cutSuffix
  rw [findChar_append _ _ _ hn]
  simp

theorem cutSuffix_id (cs : Str) (h : noneOf [cUnderscore] cs) : cutSuffix cs = cs := by
  have hn : cUnderscore ∉ cs := fun hm => h _ hm (by simp)
  unfold cutSuffix
  rw [findChar_none _ _ hn]

theorem stripDepsAux_nil (f : Nat) : stripDepsAux f [] = [] := by cases f <;> rfl

theorem stripDepsAux_fuel : ∀ (f1 f2 : Nat) (s : Str), s.length ≤ f1 → s.length ≤ f2 →
    stripDepsAux f1 s = stripDepsAux f2 s
  | _, _, [], _, _ => by rw [stripDepsAux_nil, stripDepsAux_nil]
  | 0, _, _ :: _, h, _ => absurd h (by simp)
  | _, 0, _ :: _, _, h => absurd h (by simp)
  | n + 1, m + 1, c :: cs, h1, h2 => by
    simp only [List.length_cons, Nat.add_le_add_iff_right] at h1 h2
    simp only [stripDepsAux]
    split
    · cases cs with
      | nil => rfl
      | cons d ds =>
        simp only [List.length_cons] at h1 h2
        dsimp only
        cases findChar cRBrace ds with
        | none => exact congrArg _ (stripDepsAux_fuel n m (d :: ds) h1 h2)
        | some k => exact stripDepsAux_fuel n m _ (by simp; omega) (by simp; omega)
    · rw [stripDepsAux_fuel n m cs h1 h2]

theorem stripDepsAux_plain (a rest : Str) (h : noneOf [cLBrace] a) : ∀ (f : Nat),
    a.length ≤ f → stripDepsAux f (a ++ rest) = a ++ stripDepsAux (f - a.length) rest := by
  induction a with
  | nil => intro f _; simp
  | cons x r ih =>
    intro f hf
    have hx : x ≠ cLBrace := fun e => h x (by simp) (by simp [e])
    have hr : noneOf [cLBrace] r := fun c hc => h c (List.mem_cons_of_mem _ hc)
    cases f with
    | zero => simp at hf
    | succ n =>
      simp only [List.length_cons] at hf
      simp only [List.cons_append, stripDepsAux, beq_iff_eq, hx, if_false]
      rw [ih hr n (by omega)]
      simp

theorem stripDeps_group (a b g : Str) (ha : noneOf [cLBrace] a) (hg : g ≠ [])
    (hgn : noneOf [cRBrace] g) :
    stripDeps (a ++ cLBrace :: g ++ cRBrace :: b) = a ++ stripDeps b := by
  cases g with
  | nil => exact absurd rfl hg
  | cons d ds =>
    have hds : cRBrace ∉ ds := fun hm => hgn _ (List.mem_cons_of_mem _ hm) (by simp)
    unfold stripDeps
    have e : a ++ cLBrace :: (d :: ds) ++ cRBrace :: b = a ++ (cLBrace :: d :: (ds ++ cRBrace :: b)) := by
      simp
    rw [e, stripDepsAux_plain a _ ha _ (by simp; omega)]
    congr 1
    have hlen : (a ++ cLBrace :: d :: (ds ++ cRBrace :: b)).length + 1 - a.length
        = (ds.length + b.length + 3) + 1 := by
      simp; omega
    rw [hlen]
    simp only [stripDepsAux, beq_self_eq_true, if_true, findChar_append _ _ _ hds]
    have : (ds ++ cRBrace :: b).drop (ds.length + 1) = b := by
      rw [show ds ++ cRBrace :: b = (ds ++ [cRBrace]) ++ b by simp]
      rw [List.drop_append]
      simp
    rw [this]
    exact stripDepsAux_fuel _ _ _ (by omega) (by omega)

theorem stripDeps_id (a : Str) (h : noneOf [cLBrace] a) : stripDeps a = a := by
  unfold stripDeps
  have := stripDepsAux_plain a [] h (a.length + 1) (by omega)
  simp only [List.append_nil] at this
  rw [this]
  cases (a.length + 1 - a.length) <;> simp [stripDepsAux]

theorem combinators_chars : ∀ y ∈ jaCombinators, noneOf [32, 10] y := by decide +kernel

/-- a node starts with `{` and a field up to the next blank, which `next_node` looks at -/
theorem ja_open {line : Str} {idx : Nat} {h r : Str} (hh : 32 ∉ h)
    (hd : line.drop idx = 123 :: (h ++ 32 :: r)) :
    findChar 32 (line.drop idx) = some (h.length + 1) ∧ (line.drop (idx + 1)).take (h.length + 1 - 1) = h ∧
      charAt line idx = .ok 123 ∧ jaNext line idx 32 = (123 :: h, idx + (h.length + 1) + 1) ∧
      line.drop (idx + (h.length + 1) + 1) = r := by
  have hsp : 32 ∉ 123 :: h := List.not_mem_cons_of_ne_of_not_mem (by decide) hh
  have hd' : line.drop idx = (123 :: h) ++ 32 :: r := hd
  refine ⟨by rw [hd']; exact findChar_append 32 _ _ hsp, ?_, charAt_of_drop hd, next_field hsp hd',
    drop_field hd'⟩
  rw [← List.drop_drop, hd]
  simp

/-- `parse_leaf` on `{cat body}post`: the cursor is left at `post` -/
theorem jaNode_leaf {line : Str} (fuel : Nat) {idx : Nat} (toks : List Token) {cs body post : Str}
    {cat : Cat} {a b c d : Str} (hd : line.drop idx = 123 :: (cs ++ 32 :: (body ++ 125 :: post)))
    (hcs : 32 ∉ cs) (hnc : cs ∉ jaCombinators)
    (hparse : Cat.parse (stripDeps (cutSuffix cs)) = .ok cat) (hbody : 125 ∉ body)
    (hsplit : splitOn cSlash body.dropLast = [a, b, c, d]) :
    ∃ j, line.drop j = post ∧ jaNode line (fuel + 1) idx toks =
      .ok (Tree.mkTerminal [(lit "word", a)] cat, j,
        toks ++ [[(lit "surf", a), (lit "base", b), (lit "pos1", c), (lit "pos2", d)]]) := by
  obtain ⟨hfind, hhead, hc0, hn1, d1⟩ := ja_open hcs hd
  have helem : jaCombinators.elem cs = false := by simpa using hnc
  refine ⟨_, drop_field d1, ?_⟩
  rw [jaNode]
  simp only [cSpace, cLBrace, cRBrace, hfind, hhead, helem, Bool.false_eq_true, if_false, hc0,
    bne_self_eq_false, hn1, List.drop_succ_cons, List.drop_zero, hparse, next_field hbody d1, hsplit]

/-- `parse_tree` on `{sym cat {…`: the children loop starts at the second `{`; the node is made of
    what it returns, once it has stopped at a `}` -/
theorem jaNode_tree {line : Str} (fuel : Nat) {idx : Nat} (toks : List Token) {y cs rest : Str}
    {cat : Cat} (hd : line.drop idx = 123 :: (y ++ 32 :: (cs ++ 32 :: 123 :: rest)))
    (hy : y ∈ jaCombinators) (hcs : 32 ∉ cs) (hparse : Cat.parse (stripDeps cs) = .ok cat) :
    ∃ i2, line.drop i2 = 123 :: rest ∧
      ∀ {children : List Tree} {i3 : Nat} {toks' : List Token} {post : Str},
      jaChildren line fuel i2 toks [] = .ok (children, i3, toks') → line.drop i3 = 125 :: post →
      line.drop (i3 + 1) = post ∧ jaNode line (fuel + 1) idx toks =
        match (generalizing := false) children with
        | [ch] => .ok (.un cat y y ch, i3 + 1, toks')
        | [l, r] => .ok (.bin cat y y true l r, i3 + 1, toks')
        | _ => .error .assertion := by
  obtain ⟨hfind, hhead, hc0, hn1, d1⟩ := ja_open ((combinators_chars y hy).notMem (by decide)) hd
  have helem : jaCombinators.elem y = true := by simpa using hy
  refine ⟨_, drop_field d1, fun hch hd3 => ⟨drop_field (f := []) hd3, ?_⟩⟩
  have hn3 : jaNext line _ 125 = ([], _ + 1) := next_field (f := []) (by simp) hd3
  rw [jaNode]
  simp only [cSpace, cLBrace, cRBrace, hfind, hhead, helem, if_true, hc0, bne_self_eq_false,
    Bool.false_eq_true, if_false, hn1, List.drop_succ_cons, List.drop_zero, next_field hcs d1, hparse,
    charAt_of_drop (drop_field d1), hch, hn3]
  rfl

theorem jaChildren_step {line : Str} (fuel : Nat) {idx : Nat} (toks : List Token) (acc : List Tree)
    {r r' : Str} {t : Tree} {idx' : Nat} {toks' : List Token}
    (h0 : line.drop idx = 123 :: r) (hn : jaNode line fuel idx toks = .ok (t, idx', toks'))
    (h1 : line.drop idx' = 32 :: r') :
    jaChildren line (fuel + 1) idx toks acc = jaChildren line fuel (idx' + 1) toks' (acc ++ [t]) := by
  rw [jaChildren, charAt_of_drop h0]
  simp [cRBrace, cSpace, hn, charAt_of_drop h1, next_field (f := []) (by simp) h1]

theorem jaChildren_last {line : Str} (fuel : Nat) {idx : Nat} (toks : List Token) (acc : List Tree)
    {r r' : Str} {t : Tree} {idx' : Nat} {toks' : List Token}
    (h0 : line.drop idx = 123 :: r) (hn : jaNode line (fuel + 1) idx toks = .ok (t, idx', toks'))
    (h1 : line.drop idx' = 125 :: r') :
    jaChildren line (fuel + 2) idx toks acc = .ok (acc ++ [t], idx', toks') := by
  rw [jaChildren, charAt_of_drop h0]
  simp only [cRBrace, cSpace, hn, charAt_of_drop h1, Nat.reduceBEq, Bool.false_eq_true, if_false]
  rw [jaChildren, charAt_of_drop h1]
  rfl

theorem hasWord_of_jaTokOK {t : Tree} (h : AllToks JaTokOK t) : AllToks HasWord t :=
  h.mono fun _ h => h.1.imp fun _ h => h.1

def jaText : Tree → Str
  | .leaf c tok _ _ =>
    let w := normalize (Token.getD tok (lit "word") [])
    cLBrace :: c.str ++ cSpace :: w ++ cSlash :: w ++ cSlash :: jaField tok ["pos", "pos1", "pos2", "pos3"] ++
      cSlash :: jaField tok ["inflectionForm", "inflectionType"] ++ [cRBrace]
  | .un c _ y ch => cLBrace :: y ++ cSpace :: c.str ++ cSpace :: jaText ch ++ [cRBrace]
  | .bin c _ y _ l r =>
    cLBrace :: y ++ cSpace :: c.str ++ cSpace :: jaText l ++ cSpace :: jaText r ++ [cRBrace]

def jaImg : Tree → Tree
  | .leaf c tok _ _ => Tree.mkTerminal [(lit "word", normalize (Token.getD tok (lit "word") []))] c
  | .un c _ y ch => .un c y y (jaImg ch)
  | .bin c _ y _ l r => .bin c y y true (jaImg l) (jaImg r)

theorem jaOf_eq : ∀ {t : Tree}, AllToks HasWord t → jaOf t = .ok (jaText t)
  | .leaf .., ⟨w, hw⟩ => by simp only [jaOf, jaText, get_of_get? hw, getD_of_get? hw]
  | .un _ _ _ ch, h => by simp only [jaOf, jaText, jaOf_eq (t := ch) h]
  | .bin .., h => by simp only [jaOf, jaText, jaOf_eq h.1, jaOf_eq h.2]

theorem jaImage_eq : ∀ {t : Tree}, AllToks HasWord t → jaImage t = .ok (jaImg t)
  | .leaf .., ⟨w, hw⟩ => by simp only [jaImage, jaImg, get_of_get? hw, getD_of_get? hw]
  | .un _ _ _ ch, h => by simp only [jaImage, jaImg, jaImage_eq (t := ch) h]
  | .bin .., h => by simp only [jaImage, jaImg, jaImage_eq h.1, jaImage_eq h.2]

theorem jaText_head : ∀ t : Tree, ∃ r, jaText t = cLBrace :: r
  | .leaf .. => ⟨_, rfl⟩
  | .un .. => ⟨_, rfl⟩
  | .bin .. => ⟨_, rfl⟩

theorem nodes_le_jaText : ∀ t : Tree, nodes t ≤ (jaText t).length
  | .leaf .. => by simp [nodes, jaText]
  | .un _ _ _ ch => by
    have := nodes_le_jaText ch
    simp only [nodes, jaText, List.length_append, List.length_cons]
    omega
  | .bin _ _ _ _ l r => by
    have := nodes_le_jaText l
    have := nodes_le_jaText r
    simp only [nodes, jaText, List.length_append, List.length_cons]
    omega

/-- the token the reader builds from `{cat w/w/pos/infl}`: `self.next('}')[:-1]` drops the last character of what
    stands before `}`, which in a line printed by `ja_of` is the last character of the inflection field: hence
    `dropLast` in `pos2`, and hence `JaInflOK` (an empty field would lose its `/` instead) -/
def jaTokOf (tok : Token) : Token :=
  [(lit "surf", normalize (Token.getD tok (lit "word") [])),
   (lit "base", normalize (Token.getD tok (lit "word") [])),
   (lit "pos1", jaField tok ["pos", "pos1", "pos2", "pos3"]),
   (lit "pos2", (jaField tok ["inflectionForm", "inflectionType"]).dropLast)]

def jaToks : Tree → List Token
  | .leaf _ tok _ _ => [jaTokOf tok]
  | .un _ _ _ ch => jaToks ch
  | .bin _ _ _ _ l r => jaToks l ++ jaToks r

theorem jaToks_surf : ∀ t : Tree,
    (jaToks t).map (fun tok => Token.getD tok (lit "surf") []) =
      (jaImg t).tokens.map (fun tok => Token.getD tok (lit "word") [])
  | .leaf .. => by
    simp only [jaToks, jaTokOf, jaImg, Tree.mkTerminal, Tree.tokens, List.map, Token.getD, Dict.get?,
      if_true, Option.getD]
  | .un _ _ _ ch => jaToks_surf ch
  | .bin _ _ _ _ l r => by
    simp only [jaToks, jaImg, Tree.tokens, List.map_append, jaToks_surf l, jaToks_surf r]

theorem jaBody {parts : List Str} {last : Str} (h : ∀ p ∈ parts ++ [last], noneOf [cSlash, cRBrace] p)
    (hne : last ≠ []) :
    cRBrace ∉ joinSep cSlash (parts ++ [last]) ∧
      splitOn cSlash (joinSep cSlash (parts ++ [last])).dropLast = parts ++ [last.dropLast] := by
  refine ⟨fun hm => ?_, ?_⟩
  · rcases mem_joinSep.1 hm with ⟨p, hp, hc⟩ | ⟨hc, _⟩
    · exact h p hp _ hc (by simp)
    · cases hc
  · rw [joinSep_dropLast _ _ _ hne]
    refine splitOn_joinSep _ _ (by simp) fun p hp => ?_
    rcases List.mem_append.1 hp with hp | hp
    · exact (h p (List.mem_append_left _ hp)).notMem (by simp)
    · rw [List.mem_singleton.1 hp]
      exact fun hm => h last (by simp) _ (List.dropLast_subset _ hm) (by simp)

theorem jaCat_parse {c : Cat} (hc : JaCatOK c) :
    Cat.parse (stripDeps c.str) = .ok c ∧ cutSuffix c.str = c.str := by
  rw [stripDeps_id _ (hc.2.1.mono (by simp)), cutSuffix_id _ (hc.2.1.mono (by simp))]
  exact ⟨C05.parse_print c hc.1, rfl⟩

/-- The fuel: from a node to its first child it falls by two (`jaNode` calls `jaChildren`, which calls `jaNode`),
    to the second child by one more, and the `jaChildren` call that finds the closing `}` takes the last one;
    twice the number of nodes covers that, and `readJaLine` gives more (`nodes_le_jaText`) -/
theorem jaNode_spec (line : Str) : ∀ (t : Tree), AllCats JaCatOK t → AllToks JaTokOK t →
    AllToks JaInflOK t → SymOK t →
    ∀ (fuel idx : Nat) (toks : List Token) (post : Str),
      2 * nodes t ≤ fuel → line.drop idx = jaText t ++ post →
      ∃ idx', jaNode line fuel idx toks = .ok (jaImg t, idx', toks ++ jaToks t) ∧ line.drop idx' = post
  | .leaf c tok sS sY, hc, htok, hinfl, _, fuel, idx, toks, post, hf, hd => by
    obtain ⟨⟨w, hw, hwok⟩, hpos, hin⟩ := htok
    obtain ⟨f, rfl⟩ : ∃ f, fuel = f + 1 := ⟨fuel - 1, by simp only [nodes] at hf; omega⟩
    have hinfl : jaField tok ["inflectionForm", "inflectionType"] ≠ [] := hinfl
    have hwd : Token.getD tok (lit "word") [] = w := getD_of_get? hw
    have hd' : line.drop idx = 123 :: (c.str ++ 32 :: (joinSep cSlash ([normalize w, normalize w,
        jaField tok ["pos", "pos1", "pos2", "pos3"]] ++ [jaField tok ["inflectionForm", "inflectionType"]]) ++
          125 :: post)) := by
      simpa only [jaText, hwd, joinSep, cLBrace, cSpace, cRBrace, List.append_assoc, List.cons_append,
        List.nil_append] using hd
    obtain ⟨hbody, hsplit⟩ := jaBody (last := jaField tok ["inflectionForm", "inflectionType"])
      (parts := [normalize w, normalize w, jaField tok ["pos", "pos1", "pos2", "pos3"]])
      (by
        simp only [List.cons_append, List.nil_append, List.forall_mem_cons]
        exact ⟨hwok.2.mono (by simp), hwok.2.mono (by simp), hpos.mono (by simp), hin.mono (by simp), nofun⟩)
      hinfl
    obtain ⟨j, dj, hn⟩ := jaNode_leaf f toks hd' (catStr_noSpace c hc.1) hc.2.2
      (by rw [(jaCat_parse hc).2]; exact (jaCat_parse hc).1) hbody hsplit
    exact ⟨j, by rw [hn, jaImg, jaToks, jaTokOf, hwd], dj⟩
  | .un c sS sY ch, hc, htok, hinfl, hsym, fuel, idx, toks, post, hf, hd => by
    have hnp := nodes_pos ch
    simp only [nodes] at hf
    obtain ⟨f, rfl⟩ : ∃ f, fuel = f + 3 := ⟨fuel - 3, by omega⟩
    obtain ⟨ra, hra⟩ := jaText_head ch
    have hd' : line.drop idx = 123 :: (sY ++ 32 :: (c.str ++ 32 :: 123 :: (ra ++ 125 :: post))) := by
      simpa only [jaText, hra, cLBrace, cSpace, cRBrace, List.append_assoc, List.cons_append, List.nil_append]
        using hd
    obtain ⟨i2, d2, hn⟩ := jaNode_tree (f + 2) toks hd' hsym.1 (catStr_noSpace c hc.1.1)
      (jaCat_parse hc.1).1
    obtain ⟨i3, hch, d3⟩ := jaNode_spec line ch hc.2 htok hinfl hsym.2 (f + 1) i2 toks (125 :: post) (by omega)
      (by rw [d2, hra]; rfl)
    obtain ⟨dj, hn⟩ := hn (jaChildren_last f toks [] d2 hch d3) d3
    exact ⟨_, hn, dj⟩
  | .bin c sS sY hdl l r, hc, htok, hinfl, hsym, fuel, idx, toks, post, hf, hd => by
    have hnl := nodes_pos l
    have hnr := nodes_pos r
    simp only [nodes] at hf
    obtain ⟨f, rfl⟩ : ∃ f, fuel = f + 4 := ⟨fuel - 4, by omega⟩
    obtain ⟨ra, hra⟩ := jaText_head l
    obtain ⟨rb, hrb⟩ := jaText_head r
    have hd' : line.drop idx =
        123 :: (sY ++ 32 :: (c.str ++ 32 :: 123 :: (ra ++ 32 :: (jaText r ++ 125 :: post)))) := by
      simpa only [jaText, hra, cLBrace, cSpace, cRBrace, List.append_assoc, List.cons_append, List.nil_append]
        using hd
    obtain ⟨i2, d2, hn⟩ := jaNode_tree (f + 3) toks hd' hsym.1 (catStr_noSpace c hc.1.1)
      (jaCat_parse hc.1).1
    obtain ⟨i3, hl, d3⟩ := jaNode_spec line l hc.2.1 htok.1 hinfl.1 hsym.2.1 (f + 2) i2 toks _ (by omega)
      (by rw [d2, hra]; rfl)
    have d4 := drop_field (f := []) d3
    obtain ⟨i5, hr, d5⟩ := jaNode_spec line r hc.2.2 htok.2 hinfl.2 hsym.2.2 (f + 1) _ (toks ++ jaToks l) _
      (by omega) d4
    obtain ⟨dj, hn⟩ := hn ((jaChildren_step (f + 2) toks [] d2 hl d3).trans
      (jaChildren_last f _ _ (hrb ▸ d4) hr d5)) d5
    exact ⟨_, by rw [hn]; simp only [jaImg, jaToks, List.nil_append, List.cons_append, List.append_assoc], dj⟩

theorem findChar_lt (c : Nat) (s : Str) (k : Nat) (h : findChar c s = some k) : k < s.length := by
  induction s generalizing k with
  | nil => simp [findChar] at h
  | cons x r ih =>
    unfold findChar at h
    split at h
    · simp at h; subst h; simp
    · cases hr : findChar c r with
      | none => simp [hr] at h
      | some j =>
        simp [hr] at h
        have := ih j hr
        subst h; simp; omega

end Depccg.C20
