/-
  Lemmas for the locality of the search (`Depccg/Props/SearchLocal.lean`): `expand` and `stepWith`
  read the grammar only at the entries named by `AgreeOn`, so the loops over two grammars that
  agree along the way are the same (`loc_loop_congr`); chart items and earlier pops stay in the
  trace, so agreeing on what the final trace shows is enough (`loc_agree_of_unseen`).
-/
import Depccg.Props.SearchLocalDefs
import Depccg.Proofs.SearchLemmas

namespace Depccg.SearchProps
open Depccg Search

variable {pick : Pick} {g : Grammar} {s : Sent} {cfg : Cfg}

theorem loc_unaryItems_congr {g g' : Grammar} {it : Item}
    (h : g'.un it.cat = g.un it.cat) : unaryItems g' cfg it = unaryItems g cfg it := by
  simp only [unaryItems, h]

theorem loc_binaryItems_congr {g g' : Grammar} {l r : Item}
    (h : g'.bin l.cat r.cat = g.bin l.cat r.cat) : binaryItems g' s l r = binaryItems g s l r := by
  simp only [binaryItems, h]

theorem loc_expand_congr {g g' : Grammar} {chart : List Item} {it : Item}
    (h : AgreeOn g g' s chart it) : expand g' s cfg chart it = expand g s cfg chart it := by
  obtain ⟨hun, hbin⟩ := h
  have h1 : (if s.n = 1 ∨ it.len ≠ s.n then unaryItems g' cfg it else [])
      = (if s.n = 1 ∨ it.len ≠ s.n then unaryItems g cfg it else []) := by
    split
    · rename_i hc; exact loc_unaryItems_congr (hun hc)
    · rfl
  have h2 : (neighbours chart fun o => o.start == it.stop).flatMap (fun o => binaryItems g' s it o)
      = (neighbours chart fun o => o.start == it.stop).flatMap (fun o => binaryItems g s it o) :=
    flatMap_congr fun o ho => by
      obtain ⟨hoc, hp⟩ := mem_neighbours.1 ho
      exact loc_binaryItems_congr ((hbin o hoc).1 (by simpa using hp))
  have h3 : (neighbours chart fun o => o.stop == it.start).flatMap (fun o => binaryItems g' s o it)
      = (neighbours chart fun o => o.stop == it.start).flatMap (fun o => binaryItems g s o it) :=
    flatMap_congr fun o ho => by
      obtain ⟨hoc, hp⟩ := mem_neighbours.1 ho
      exact loc_binaryItems_congr ((hbin o hoc).2 (by simpa using hp))
  rw [expand, h1, h2, h3, expand]

/-- `AgreeAlongRun` at one state, its four premises packed as `Closes` -/
def AgreeAt (pick : Pick) (g g' : Grammar) (s : Sent) (cfg : Cfg) (st : St) : Prop :=
  ∀ it rest, Closes pick cfg st it rest → AgreeOn g g' s st.chart it

theorem loc_stepWith_congr {g g' : Grammar} {st : St}
    (h : AgreeAt pick g g' s cfg st) : stepWith pick g' s cfg st = stepWith pick g s cfg st :=
  stepPush_congr fun it rest hcl => loc_expand_congr (h it rest hcl)

theorem loc_loop_congr {g g' : Grammar} {fuel : Nat} {st : St}
    (h : ∀ j, j < fuel → AgreeAt pick g g' s cfg (loop pick g s cfg j st)) :
    loop pick g' s cfg fuel st = loop pick g s cfg fuel st :=
  loop_map id fun j hj => (loc_stepWith_congr (h j hj)).trans Option.map_id'.symm

theorem loc_popped_at_mem_final {k : Nat}
    {it : Item} {rest : List Item} (hk : k < cfg.maxStep)
    (hlen : ¬ cfg.nbest ≤ (stateAt pick g s cfg k).goal.length)
    (hpop : pick.pop (stateAt pick g s cfg k).agenda = some (it, rest)) :
    it :: (stateAt pick g s cfg k).chart ⊆ (finalSt pick g s cfg).popped := by
  obtain ⟨m, hm⟩ : ∃ m, cfg.maxStep = k + (m + 1) := ⟨cfg.maxStep - k - 1, by omega⟩
  rw [finalSt, hm, loop_add, loop_succ]
  cases hs : stepWith pick g s cfg (loop pick g s cfg k (init pick s cfg)) with
  | none =>
    rcases stepWith_none_iff.1 hs with h | h
    · exact absurd h hlen
    · rw [stateAt] at hpop; rw [hpop] at h; cases h
  | some st' =>
    obtain ⟨it', rest', hpop', hp, -⟩ := stepWith_trace hs
    rw [stateAt] at hpop
    rw [hpop] at hpop'
    cases hpop'
    refine fun x hx => loop_popped_mono pick g s cfg m st' (hp ▸ ?_)
    exact List.cons_subset_cons it (loop_chart_sub_popped pick g s cfg k (init pick s cfg) fun _ h => nomatch h) hx

theorem loc_agree_of_unseen {g g' : Grammar}
    (hun : ∀ x, (∃ it ∈ (runWith pick g s cfg).popped, it.cat = x) → g'.un x = g.un x)
    (hbin : ∀ x y, (∃ it ∈ (runWith pick g s cfg).popped, it.cat = x) →
        (∃ it ∈ (runWith pick g s cfg).popped, it.cat = y) → g'.bin x y = g.bin x y) :
    AgreeAlongRun pick g g' s cfg := by
  intro k hk st hlen it rest hpop hf hdrop
  have hsub := loc_popped_at_mem_final hk hlen hpop
  have seen : ∀ o ∈ it :: st.chart, ∃ x ∈ (runWith pick g s cfg).popped, x.cat = o.cat :=
    fun o ho => ⟨o, List.mem_reverse.2 (hsub ho), rfl⟩
  have hit := seen it List.mem_cons_self
  exact ⟨fun _ => hun _ hit, fun o ho =>
    ⟨fun _ => hbin _ _ hit (seen o (List.mem_cons_of_mem _ ho)),
     fun _ => hbin _ _ (seen o (List.mem_cons_of_mem _ ho)) hit⟩⟩

end Depccg.SearchProps
