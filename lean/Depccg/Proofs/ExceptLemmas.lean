/-
  `mapExcept f xs = .ok ys` says that `ys` is `xs` through `f`, position by position (`Forall2`, which
  is `FileProps.Forall2` of `Props/FileDefs.lean`);
  `Cli.mapExcept`, `FileProps.mapExcept` and the loop of `Lazy.treesOf` are one function, and `Print.catExcept` is
  that function with the texts joined (`catExcept_eq` in `PrintLemmas`).
-/
import Depccg.Cli
import Depccg.Props.FileDefs

namespace Depccg

variable {α β : Type}

theorem Except.map_ok {x : Except Err α} {a : α} {g : α → β} (h : x = .ok a) : x.map g = .ok (g a) := by
  subst h; rfl

theorem Except.map_ok_inv {x : Except Err α} {g : α → β} {y : β} (h : x.map g = .ok y) :
    ∃ a, x = .ok a ∧ y = g a := by
  cases x with
  | error e => cases h
  | ok a => cases h; exact ⟨a, rfl, rfl⟩

end Depccg

namespace Depccg.FileProps.Forall2

variable {α β : Type} {R S : α → β → Prop}

theorem imp {as : List α} {bs : List β} (h : Forall2 R as bs) :
    (∀ a ∈ as, ∀ b, R a b → S a b) → Forall2 S as bs := by
  induction h with
  | nil => exact fun _ => .nil
  | cons hab _ ih =>
    exact fun hi => .cons (hi _ (by simp) _ hab) (ih (fun a ha => hi a (by simp [ha])))

theorem append {as as' : List α} {bs bs' : List β} (h : Forall2 R as bs) (h' : Forall2 R as' bs') :
    Forall2 R (as ++ as') (bs ++ bs') := by
  induction h with
  | nil => exact h'
  | cons hab _ ih => exact .cons hab ih

theorem length_eq : ∀ {xs : List α} {ys : List β}, Forall2 R xs ys → xs.length = ys.length
  | _, _, .nil => rfl
  | _, _, .cons _ t => by simp [length_eq t]

theorem exists_of_mem_right : ∀ {xs : List α} {ys : List β}, Forall2 R xs ys →
    ∀ y ∈ ys, ∃ x ∈ xs, R x y
  | _, _, .nil, _, hy => by cases hy
  | _, _, .cons (a := a) h t, y, hy => by
    rcases List.mem_cons.1 hy with rfl | hy
    · exact ⟨a, List.mem_cons_self, h⟩
    · obtain ⟨x, hx, hxy⟩ := exists_of_mem_right t y hy
      exact ⟨x, List.mem_cons_of_mem _ hx, hxy⟩

theorem map_eq {γ : Type} {f : α → γ} {g : β → γ}
    (hfg : ∀ a b, R a b → f a = g b) : ∀ {as : List α} {bs : List β}, Forall2 R as bs →
      as.map f = bs.map g
  | _, _, .nil => rfl
  | _, _, .cons h t => by rw [List.map_cons, List.map_cons, hfg _ _ h, map_eq hfg t]

end Depccg.FileProps.Forall2

namespace Depccg.Cli
open FileProps (Forall2)

variable {α β : Type}

theorem mapExcept_cons_ok {f : α → Except Err β} {x : α} {xs : List α} {y : β} {ys : List β}
    (hx : f x = .ok y) (hxs : mapExcept f xs = .ok ys) : mapExcept f (x :: xs) = .ok (y :: ys) := by
  simp only [mapExcept, hx, hxs]

theorem mapExcept_cons_inv {f : α → Except Err β} {x : α} {xs : List α} {zs : List β}
    (h : mapExcept f (x :: xs) = .ok zs) :
    ∃ y ys, f x = .ok y ∧ mapExcept f xs = .ok ys ∧ zs = y :: ys := by
  simp only [mapExcept] at h
  cases hx : f x with
  | error e => rw [hx] at h; cases h
  | ok y =>
    rw [hx] at h
    cases hxs : mapExcept f xs with
    | error e => rw [hxs] at h; cases h
    | ok ys =>
      rw [hxs] at h
      cases h
      exact ⟨y, ys, rfl, rfl, rfl⟩

theorem mapExcept_spec {f : α → Except Err β} : ∀ {xs : List α} {ys : List β},
    mapExcept f xs = .ok ys ↔ Forall2 (fun x y => f x = .ok y) xs ys
  | [], ys => ⟨fun h => by cases h; exact .nil, fun h => by cases h; rfl⟩
  | x :: xs, ys => by
    constructor
    · intro h
      obtain ⟨y, ys', hx, hxs, rfl⟩ := mapExcept_cons_inv h
      exact .cons hx (mapExcept_spec.1 hxs)
    · intro h
      cases h with
      | cons hx hr => exact mapExcept_cons_ok hx (mapExcept_spec.2 hr)

theorem mapExcept_mem {f : α → Except Err β} {l : List α} {ys : List β} (h : mapExcept f l = .ok ys) :
    ∀ y ∈ ys, ∃ x ∈ l, f x = .ok y :=
  (mapExcept_spec.1 h).exists_of_mem_right

theorem mapExcept_length {f : α → Except Err β} {l : List α} {ys : List β}
    (h : mapExcept f l = .ok ys) : l.length = ys.length :=
  (mapExcept_spec.1 h).length_eq

theorem mapExcept_total (f : α → Except Err β) :
    ∀ (l : List α), (∀ x ∈ l, ∃ y, f x = .ok y) → ∃ ys, mapExcept f l = .ok ys
  | [], _ => ⟨_, rfl⟩
  | x :: xs, h => by
    obtain ⟨y, hy⟩ := h x List.mem_cons_self
    obtain ⟨ys, hys⟩ := mapExcept_total f xs fun z hz => h z (List.mem_cons_of_mem _ hz)
    exact ⟨_, mapExcept_cons_ok hy hys⟩

theorem mapExcept_forall2 {γ : Type} (f : β → Except Err γ) (S : α → β → Prop) (R : α → γ → Prop)
    {as : List α} {bs : List β} (h : Forall2 S as bs) :
    (∀ a ∈ as, ∀ b, S a b → ∃ r, f b = .ok r ∧ R a r) →
      ∃ rs, mapExcept f bs = .ok rs ∧ Forall2 R as rs := by
  induction h with
  | nil => exact fun _ => ⟨[], rfl, .nil⟩
  | @cons a b as bs hab _ ih =>
    intro hall
    obtain ⟨r, hr, hR⟩ := hall a List.mem_cons_self b hab
    obtain ⟨rs, hrs, hF⟩ := ih fun a' ha' => hall a' (List.mem_cons_of_mem _ ha')
    exact ⟨r :: rs, mapExcept_cons_ok hr hrs, .cons hR hF⟩

theorem mapExcept_pure {γ : Type} (f : α → γ) : ∀ (l : List α),
    mapExcept (fun x => (Except.ok (f x) : Except Err γ)) l = .ok (l.map f)
  | [] => rfl
  | _ :: xs => mapExcept_cons_ok rfl (mapExcept_pure f xs)

theorem mapExcept_map_ok (g : β → Except Err α) (f : α → β) : ∀ (l : List α),
    (∀ x ∈ l, g (f x) = .ok x) → mapExcept g (l.map f) = .ok l
  | [], _ => rfl
  | x :: xs, h =>
    mapExcept_cons_ok (h x (by simp)) (mapExcept_map_ok g f xs (fun y hy => h y (by simp [hy])))

theorem mapExcept_map {γ : Type} (g : β → Except Err γ) (f : α → β) : ∀ (l : List α),
    mapExcept g (l.map f) = mapExcept (fun x => g (f x)) l
  | [] => rfl
  | x :: xs => by
    simp only [List.map_cons, mapExcept, mapExcept_map g f xs]

end Depccg.Cli

namespace Depccg.FileProps

theorem mapExcept_eq_cli {α β : Type} (f : α → Except Err β) : ∀ xs : List α,
    mapExcept f xs = Cli.mapExcept f xs
  | [] => rfl
  | x :: xs => by
    simp only [mapExcept, Cli.mapExcept, mapExcept_eq_cli f xs]
    cases f x with
    | error e => rfl
    | ok y => cases Cli.mapExcept f xs <;> rfl

theorem mapExcept_spec {α β : Type} {f : α → Except Err β} {xs : List α} {ys : List β} :
    mapExcept f xs = .ok ys ↔ Forall2 (fun x y => f x = .ok y) xs ys := by
  rw [mapExcept_eq_cli]
  exact Cli.mapExcept_spec

end Depccg.FileProps

namespace Depccg.Lazy
open Search GlueTree GlueRun

theorem treesOf_eq_mapExcept (gst : GSt) (tokens : List Token) : ∀ rs : List Item,
    treesOf gst tokens rs =
      Cli.mapExcept (fun r => (retrieve (tablesOf gst) tokens r.d).map fun t => (t, r.prio)) rs
  | [] => rfl
  | r :: rs => by
    simp only [treesOf, Cli.mapExcept, treesOf_eq_mapExcept gst tokens rs]
    cases retrieve (tablesOf gst) tokens r.d with
    | error e => rfl
    | ok t => cases Cli.mapExcept _ rs <;> rfl

end Depccg.Lazy
