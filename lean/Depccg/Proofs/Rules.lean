/-
  The matching rules of the two grammars.  A matching rule is a pair of patterns, the input that is
  the secondary functor (`keep`: returned unchanged when the other input is a modifier `X|X`) and a
  result template; what the sixteen `build` functions of depccg/grammar/en.py and ja.py compute is
  one function of the template, `plug`.  `Rule` holds the eight data of a rule, `Rule.run` is what
  the rule does, written without a `build`, and each combinator of the model is `run` of its entry
  (`fa_run` …: the one place where its `build` is evaluated).  That a rule carries its label, returns
  normally inside one feature system and keeps every class of categories that admits instantiation
  are theorems about `Rule.run`; soundness and completeness read `Rule.run_inv`
  (Proofs/C03Lemmas.lean, Proofs/C04Lemmas.lean).
-/
import Depccg.Proofs.CombShapes
import Depccg.Proofs.CatClass
import Depccg.Props.C06

namespace Depccg.Rules
open Depccg Cat Str Unify C06 Pat
open Depccg.C03 (via noGuard nGuard)
open Depccg.Closure (CatA RuleClosed)

/-- the binding of `v`; the default is never met after a successful match (`Rule.get_val`), it makes
    `plug` total -/
def val (σ : Bindings) (v : Str) : Cat :=
  match σ.get v with
  | .ok c => c
  | .error _ => default

def leftD : Cat → Cat | .fn l _ _ => l | c => c
def rightD : Cat → Cat | .fn _ _ r => r | c => c
def slashD : Cat → Nat | .fn _ s _ => s | _ => cSlash

/-- the template `t` with every variable `v` replaced by `g v`; a `|` of the template stands for the
    slash found at the same place of `src` (`y.functor(l, r)` takes the slash of `y`) -/
def plug (g : Str → Cat) : Cat → Cat → Cat
  | .atom v _, _ => g v
  | .fn tl ts tr, src =>
    .fn (plug g tl (leftD src)) (if ts = cBar then slashD src else ts) (plug g tr (rightD src))

def slashes : Cat → List Nat
  | .atom .. => []
  | .fn l s r => slashes l ++ s :: slashes r

structure Rule where
  /-- head on the left (English) -/
  hl : Bool
  px : Cat
  py : Cat
  /-- no result when `b` is bound to `N` or `NP` -/
  noN : Bool
  /-- the secondary functor is `x` (else `y`): it is returned when the other input is a modifier,
      and it gives the slashes the template leaves open -/
  keepX : Bool
  os : String
  sym : String
  /-- the result template: the pattern of the secondary functor with `b` replaced by `a` -/
  res : Cat

namespace Rule

def keep (R : Rule) (x y : Cat) : Cat := bif R.keepX then x else y
/-- the primary functor -/
def mo (R : Rule) (x y : Cat) : Cat := bif R.keepX then y else x
def keepPat (R : Rule) : Cat := bif R.keepX then R.px else R.py
def guard (R : Rule) : Bindings → Except Err Bool := bif R.noN then nGuard else noGuard

def run (R : Rule) (x y : Cat) : Except Err (Option RuleRes) :=
  match unify R.px R.py x y with
  | .error e => .error e
  | .ok none => .ok none
  | .ok (some σ) =>
    match R.guard σ with
    | .error e => .error e
    | .ok true => .ok none
    | .ok false => .ok (some ⟨if isModifier (R.mo x y) then R.keep x y
        else plug (val σ) R.res (R.keep x y), lit R.os, lit R.sym, R.hl⟩)

/-- the template mentions pattern variables only, its slashes are `/`, `\` or open, and `b` is a
    pattern variable (the guard reads it) -/
def TmplOK (R : Rule) : Prop :=
  (∀ v ∈ vars R.res, v ∈ vars R.px ++ vars R.py) ∧
  (∀ s ∈ slashes R.res, s = cSlash ∨ s = cBSlash ∨ s = cBar) ∧ [98] ∈ vars R.px ++ vars R.py

instance (R : Rule) : Decidable R.TmplOK := by unfold TmplOK; infer_instance

variable {R : Rule} {x y : Cat}

theorem plug_congr {g g' : Str → Cat} {t : Cat} (h : ∀ v ∈ vars t, g v = g' v) (src : Cat) :
    plug g t src = plug g' t src := by
  induction t generalizing src with
  | atom v f => exact h v (List.mem_singleton_self v)
  | fn tl ts tr ihl ihr =>
    simp only [plug, ihl (fun v hv => h v (List.mem_append_left _ hv)),
      ihr (fun v hv => h v (List.mem_append_right _ hv))]

theorem shape_keep (sx : Shape R.px x) (sy : Shape R.py y) : Shape R.keepPat (R.keep x y) := by
  unfold keepPat keep
  cases R.keepX <;> assumption

theorem get_val {σ : Bindings} (h : unify R.px R.py x y = .ok (some σ)) :
    ∀ v ∈ vars R.px ++ vars R.py, σ.get v = .ok (val σ v) := by
  intro v hv
  obtain ⟨c, hc⟩ := unify_binds h v hv
  rw [val, hc]

/-- A combinator of the code is `run` as soon as its `build` computes `plug` whenever the secondary
    functor has the shape of its pattern and every pattern variable is bound: after a successful
    match both hold (`C06.unify_shapes`, `C06.unify_binds`). -/
theorem via_run (R : Rule) {build : Bindings → Except Err Cat}
    (hE : ∀ {σ : Bindings} {g : Str → Cat}, Shape R.keepPat (R.keep x y) →
      (∀ v ∈ vars R.px ++ vars R.py, σ.get v = .ok (g v)) →
      build σ = .ok (plug g R.res (R.keep x y))) :
    via R.hl R.px R.py x y R.guard (R.mo x y) (R.keep x y) R.os R.sym build = R.run x y := by
  unfold run via
  rcases hu : unify R.px R.py x y with e | _ | σ
  · rfl
  · rfl
  · dsimp only
    rw [hE (shape_keep (unify_shapes hu).1 (unify_shapes hu).2) (get_val hu)]
    rcases R.guard σ with e | _ | _
    · rfl
    · dsimp only
      split <;> rfl
    · rfl

end Rule

/-! Each combinator is `run` of its entry: its `build` looks up pattern variables only, and `leftOf`
  and `functorOf` are given an input as deep as its pattern. -/

section builds
variable {R : Rule} {k : Cat} {σ : Bindings} {g : Str → Cat}
  (ks : ∀ v ∈ vars R.px ++ vars R.py, σ.get v = .ok (g v))
include ks

theorem build2 {s : Nat} (hr : R.res = .fn a s c) (hs : s ≠ cBar := by decide)
    (h1 : [97] ∈ vars R.px ++ vars R.py := by decide)
    (h2 : [99] ∈ vars R.px ++ vars R.py := by decide) :
    (Ja.get2 σ 97 99 fun a c => .ok (.fn a s c)) = .ok (plug g R.res k) := by
  rw [hr, C03.get2_eq ks 97 99 h1 h2, plug, if_neg hs]
  rfl

theorem build3 {s : Nat} (sk : Shape (any (.fn b s c) d) k) (hr : R.res = any (.fn a s c) d)
    (hs : s ≠ cBar := by decide) (h1 : [97] ∈ vars R.px ++ vars R.py := by decide)
    (h2 : [99] ∈ vars R.px ++ vars R.py := by decide)
    (h3 : [100] ∈ vars R.px ++ vars R.py := by decide) :
    (Ja.get3 σ 97 99 100 fun a c d => En.functorOf k (.fn a s c) d) =
      .ok (plug g R.res k) := by
  obtain ⟨_, _, _, rfl, -, -, -⟩ := sk.fn_inv
  rw [hr, C03.get3_eq ks 97 99 100 h1 h2 h3]
  simp only [plug, any, if_neg hs, if_pos]
  rfl

end builds

-- the fields of an entry, in order: `hl`, `px`, `py`, `noN`, `keepX`, `os`, `sym`, `res`
namespace JaTable

def fa : Rule := ⟨false, fwd a b, b, false, false, "fa", ">", a⟩
def ba : Rule := ⟨false, b, bwd a b, false, true, "ba", "<", a⟩
def fc : Rule := ⟨false, fwd a b, fwd b c, false, false, "fc", ">B", fwd a c⟩
def gbc1 : Rule := ⟨false, bwd b c, bwd a b, false, true, "bx", "<B1", bwd a c⟩
def gbc2 : Rule := ⟨false, any (bwd b c) d, bwd a b, false, true, "bx", "<B2", any (bwd a c) d⟩
def gbc3 : Rule :=
  ⟨false, any (any (bwd b c) d) e, bwd a b, false, true, "bx", "<B3", any (any (bwd a c) d) e⟩
def gbc4 : Rule := ⟨false, any (any (any (bwd b c) d) e) f, bwd a b, false, true, "bx", "<B4",
  any (any (any (bwd a c) d) e) f⟩
def gfc1 : Rule := ⟨false, fwd a b, bwd b c, false, false, "fx", ">Bx1", bwd a c⟩
def gfc2 : Rule := ⟨false, fwd a b, any (bwd b c) d, false, false, "fx", ">Bx2", any (bwd a c) d⟩
def gfc3 : Rule :=
  ⟨false, fwd a b, any (any (bwd b c) d) e, false, false, "fx", ">Bx3", any (any (bwd a c) d) e⟩

def rules : List Rule := [fa, ba, fc, gbc1, gbc2, gbc3, gbc4, gfc1, gfc2, gfc3]

variable (x y : Cat)

theorem fa_run : Ja.forwardApplication x y = fa.run x y :=
  fa.via_run fun _ ks => ks _ (by decide)

theorem ba_run : Ja.backwardApplication x y = ba.run x y :=
  ba.via_run fun _ ks => ks _ (by decide)

theorem fc_run : Ja.forwardComposition x y = fc.run x y :=
  fc.via_run fun _ ks => build2 ks rfl

theorem gbc1_run : Ja.generalizedBackwardComposition1 x y = gbc1.run x y :=
  gbc1.via_run fun _ ks => build2 ks rfl

theorem gbc2_run : Ja.generalizedBackwardComposition2 x y = gbc2.run x y :=
  gbc2.via_run fun sk ks => build3 ks sk rfl

theorem gbc3_run : Ja.generalizedBackwardComposition3 x y = gbc3.run x y := by
  refine gbc3.via_run fun {σ g} sk ks => ?_
  obtain ⟨_, _, _, hk, -, sk, -⟩ := sk.fn_inv
  obtain ⟨_, _, _, rfl, -, -, -⟩ := sk.fn_inv
  rw [C03.get3_eq ks 97 99 100]
  simp only [show x = _ from hk, Ja.leftOf, En.functorOf, ks [101] (by decide)]
  rfl

theorem gbc4_run : Ja.generalizedBackwardComposition4 x y = gbc4.run x y := by
  refine gbc4.via_run fun {σ g} sk ks => ?_
  obtain ⟨_, _, _, hk, -, sk, -⟩ := sk.fn_inv
  obtain ⟨_, _, _, rfl, -, sk, -⟩ := sk.fn_inv
  obtain ⟨_, _, _, rfl, -, -, -⟩ := sk.fn_inv
  rw [C03.get3_eq ks 97 99 100]
  simp only [show x = _ from hk, Ja.leftOf, En.functorOf, ks [101] (by decide),
    ks [102] (by decide)]
  rfl

theorem gfc1_run : Ja.generalizedForwardComposition1 x y = gfc1.run x y :=
  gfc1.via_run fun _ ks => build2 ks rfl

theorem gfc2_run : Ja.generalizedForwardComposition2 x y = gfc2.run x y :=
  gfc2.via_run fun sk ks => build3 ks sk rfl

theorem gfc3_run : Ja.generalizedForwardComposition3 x y = gfc3.run x y := by
  refine gfc3.via_run fun {σ g} sk ks => ?_
  obtain ⟨_, _, _, hk, -, sk, -⟩ := sk.fn_inv
  obtain ⟨_, _, _, rfl, -, -, -⟩ := sk.fn_inv
  rw [C03.get3_eq ks 97 99 100]
  simp only [show y = _ from hk, Ja.leftOf, En.functorOf, ks [101] (by decide)]
  rfl

end JaTable

namespace EnTable

def fa : Rule := ⟨true, fwd a b, b, false, false, "fa", ">", a⟩
/-- `backwardApplication` is this rule behind the test for `S[dcl]  S[em]\S[em]` (`ba_run`) -/
def ba : Rule := ⟨true, b, bwd a b, false, true, "ba", "<", a⟩
def fc : Rule := ⟨true, fwd a b, fwd b c, false, false, "fc", ">B", fwd a c⟩
def bx : Rule := ⟨true, fwd b c, bwd a b, true, true, "bx", "<B", fwd a c⟩
def gfc : Rule := ⟨true, fwd a b, any (fwd b c) d, false, false, "gfc", ">B", any (fwd a c) d⟩
def gbx : Rule := ⟨true, any (fwd b c) d, fwd a b, true, true, "gbx", "<B", any (fwd a c) d⟩

def rules : List Rule := [fa, ba, fc, bx, gfc, gbx]

variable (x y : Cat)

theorem fa_run : En.forwardApplication x y = fa.run x y :=
  fa.via_run fun _ ks => ks _ (by decide)

theorem ba_run : En.backwardApplication x y =
    if Cat.pyEqStr x (lit "S[dcl]") && Cat.pyEqStr y (lit "S[em]\\S[em]") then
      En.mk x "ba" "<" else ba.run x y :=
  (C03.ba_eq x y).trans (congrArg _ (ba.via_run fun _ ks => ks _ (by decide)))

theorem fc_run : En.forwardComposition x y = fc.run x y :=
  (C03.fc_eq x y).trans (fc.via_run fun _ ks => build2 ks rfl)

theorem bx_run : En.backwardComposition x y = bx.run x y :=
  (C03.bx_eq x y).trans (bx.via_run fun _ ks => build2 ks rfl)

theorem gfc_run : En.generalizedForwardComposition x y = gfc.run x y :=
  (C03.gfc_eq x y).trans
    (gfc.via_run fun sk ks => build3 ks sk rfl)

theorem gbx_run : En.generalizedBackwardComposition x y = gbx.run x y :=
  (C03.gbx_eq x y).trans
    (gbx.via_run fun sk ks => build3 ks sk rfl)

end EnTable

theorem JaTable.tmplOK : ∀ R ∈ JaTable.rules, R.TmplOK := by decide

theorem EnTable.tmplOK : ∀ R ∈ EnTable.rules, R.TmplOK := by decide


namespace Rule
variable {R : Rule} {x y : Cat}

theorem run_inv {r : RuleRes} (h : R.run x y = .ok (some r)) :
    ∃ σ, unify R.px R.py x y = .ok (some σ) ∧ R.guard σ = .ok false ∧
      r = ⟨if isModifier (R.mo x y) then R.keep x y else plug (val σ) R.res (R.keep x y),
        lit R.os, lit R.sym, R.hl⟩ := by
  unfold run at h
  split at h
  · cases h
  · cases h
  next σ hu =>
    split at h
    · cases h
    · cases h
    next hg => cases h; exact ⟨σ, hu, hg, rfl⟩

theorem run_label {r : RuleRes} (h : R.run x y = .ok (some r)) :
    r.opString = lit R.os ∧ r.opSymbol = lit R.sym ∧ r.headLeft = R.hl := by
  obtain ⟨σ, -, -, rfl⟩ := run_inv h
  exact ⟨rfl, rfl, rfl⟩

/-- inside one feature system a rule returns normally: the match does (C06 `unify_total`), and the
    guard reads a pattern variable -/
theorem run_total (hT : R.TmplOK) (sk : SameKind x y) : ∃ r, R.run x y = .ok r := by
  unfold run
  obtain ⟨o, hu⟩ := unify_total R.px R.py x y sk
  rw [hu]
  cases o with
  | none => exact ⟨_, rfl⟩
  | some σ =>
    have hg : ∃ b, R.guard σ = .ok b := by
      unfold guard
      cases R.noN
      · exact ⟨_, rfl⟩
      · exact ⟨_, C03.nGuard_eq (get_val hu _ hT.2.2)⟩
    obtain ⟨b, hg⟩ := hg
    simp only [hg]
    cases b
    · exact ⟨_, rfl⟩
    · exact ⟨_, rfl⟩

section closed
variable {A : Str → Feat → Prop} {S : Nat → Prop} (hA : RuleClosed A S)
include hA

/-- a binding is a part of an input with features of the inputs in the place of variable features -/
theorem binding_catA {px py : Cat} {σ : Bindings} (hx : CatA A S x) (hy : CatA A S y)
    (h : unify px py x y = .ok (some σ)) {k : Str} {b : Cat} (hg : σ.get k = .ok b) :
    CatA A S b := by
  obtain ⟨c, hm, hi⟩ := binding_instance h hg
  refine Closure.catA_instance hA (fun f hf => ?_) hi
    (hm.elim (Closure.catA_matched · hx) (Closure.catA_matched · hy))
  exact (List.mem_append.1 hf).elim (Closure.catA_feats hx f) (Closure.catA_feats hy f)

/-- the junk values of `leftD`, `slashD`, `rightD` stay inside the class, so no hypothesis on the
    shape of `src` is needed -/
theorem plug_catA {g : Str → Cat} {t src : Cat}
    (hs : ∀ s ∈ slashes t, s = cSlash ∨ s = cBSlash ∨ s = cBar)
    (hg : ∀ v ∈ vars t, CatA A S (g v)) (hsrc : CatA A S src) : CatA A S (plug g t src) := by
  induction t generalizing src with
  | atom v f => exact hg v (List.mem_singleton_self v)
  | fn tl ts tr ihl ihr =>
    have hl : CatA A S (leftD src) := by
      cases src with
      | atom => exact hsrc
      | fn => exact hsrc.1
    have hr : CatA A S (rightD src) := by
      cases src with
      | atom => exact hsrc
      | fn => exact hsrc.2.2
    have hd : S (slashD src) := by
      cases src with
      | atom => exact hA.fwd
      | fn => exact hsrc.2.1
    refine ⟨ihl (fun s h => hs s (List.mem_append_left _ h))
        (fun v h => hg v (List.mem_append_left _ h)) hl, ?_,
      ihr (fun s h => hs s (List.mem_append_right _ (List.mem_cons_of_mem _ h)))
        (fun v h => hg v (List.mem_append_right _ h)) hr⟩
    split
    · exact hd
    · rcases hs ts (List.mem_append_right _ List.mem_cons_self) with e | e | e
      · exact e ▸ hA.fwd
      · exact e ▸ hA.bwd
      · contradiction

theorem run_closed (hT : R.TmplOK) (hx : CatA A S x) (hy : CatA A S y) {r : RuleRes}
    (h : R.run x y = .ok (some r)) : CatA A S r.cat := by
  obtain ⟨σ, hu, -, rfl⟩ := run_inv h
  have hk : CatA A S (R.keep x y) := by
    unfold keep
    cases R.keepX
    · exact hy
    · exact hx
  dsimp only
  split
  · exact hk
  · exact plug_catA hA hT.2.1 (fun v hv => binding_catA hA hx hy hu (get_val hu v (hT.1 v hv))) hk

end closed

end Rule

theorem mem_ja {c : Ja.Comb} (hc : c ∈ Ja.combinators) :
    (∃ R ∈ JaTable.rules, ∀ x y, c x y = R.run x y) ∨ c = Ja.conjoin := by
  have tbl : ∀ (i : Nat) (R : Rule), JaTable.rules[i]? = some R → (∀ x y, c x y = R.run x y) →
      (∃ R ∈ JaTable.rules, ∀ x y, c x y = R.run x y) ∨ c = Ja.conjoin :=
    fun i R hR h => .inl ⟨R, List.mem_of_getElem? hR, h⟩
  simp only [Ja.combinators, List.mem_cons, List.not_mem_nil, or_false] at hc
  rcases hc with rfl | rfl | rfl | rfl | rfl | rfl | rfl | rfl | rfl | rfl | rfl
  · exact tbl 0 _ rfl JaTable.fa_run
  · exact tbl 1 _ rfl JaTable.ba_run
  · exact tbl 2 _ rfl JaTable.fc_run
  · exact tbl 3 _ rfl JaTable.gbc1_run
  · exact tbl 4 _ rfl JaTable.gbc2_run
  · exact tbl 5 _ rfl JaTable.gbc3_run
  · exact tbl 6 _ rfl JaTable.gbc4_run
  · exact tbl 7 _ rfl JaTable.gfc1_run
  · exact tbl 8 _ rfl JaTable.gfc2_run
  · exact tbl 9 _ rfl JaTable.gfc3_run
  · exact .inr rfl

/-- the English grammar is the table (with `backwardApplication` apart, which asks a question
    before it is a rule of the table: `EnTable.ba_run`), and seven rules that match no pattern -/
theorem mem_en {c : En.Comb} (hc : c ∈ En.combinators) :
    (∃ R ∈ EnTable.rules, ∀ x y, c x y = R.run x y) ∨ c = En.backwardApplication ∨
    c = En.conjunction ∨ c = En.conjunction2 ∨ c = En.removePunctuation1 ∨
    c = En.removePunctuation2 ∨ c = En.removePunctuationLeft ∨
    c = En.commaVpToAdv ∨ c = En.parentheticalDirectSpeech := by
  have tbl : ∀ (i : Nat) (R : Rule), EnTable.rules[i]? = some R → (∀ x y, c x y = R.run x y) →
      ∃ R ∈ EnTable.rules, ∀ x y, c x y = R.run x y :=
    fun i R hR h => ⟨R, List.mem_of_getElem? hR, h⟩
  simp only [En.combinators, List.mem_cons, List.not_mem_nil, or_false] at hc
  rcases hc with rfl | rfl | rfl | rfl | rfl | rfl | h
  · exact .inl (tbl 0 _ rfl EnTable.fa_run)
  · exact .inr (.inl rfl)
  · exact .inl (tbl 2 _ rfl EnTable.fc_run)
  · exact .inl (tbl 3 _ rfl EnTable.bx_run)
  · exact .inl (tbl 4 _ rfl EnTable.gfc_run)
  · exact .inl (tbl 5 _ rfl EnTable.gbx_run)
  · exact .inr (.inr h)

/-- the English grammar by name, for what is said of each combinator apart (soundness, labels) -/
theorem mem_combinators {c : En.Comb} (h : c ∈ En.combinators) :
    c = En.forwardApplication ∨ c = En.backwardApplication ∨ c = En.forwardComposition ∨
    c = En.backwardComposition ∨ c = En.generalizedForwardComposition ∨
    c = En.generalizedBackwardComposition ∨ c = En.conjunction ∨ c = En.conjunction2 ∨
    c = En.removePunctuation1 ∨ c = En.removePunctuation2 ∨ c = En.removePunctuationLeft ∨
    c = En.commaVpToAdv ∨ c = En.parentheticalDirectSpeech := by
  simpa only [En.combinators, List.mem_cons, List.not_mem_nil, or_false] using h

end Depccg.Rules
