/-
  One predicate `P` on every attribute of a document: `XTreeAll P`, `CcgAll P`, `JSentAll P` say it of the
  records the two converters build, `ElemAll T P` of an element tree (with `T` of every tag).  The Jigg
  converter, `withScoresAll` and the maps to element trees preserve it whatever `P` is.  It is used with
  `P kv := NameOK kv.1` (the reader inverts the printer) and with `P kv := xmlStrOk kv.2` (`valid_iff`:
  the printer does not refuse; `docText_ok_iff`, `jiggText_ok_iff`: the text it then returns).
-/
import Depccg.Print.XmlText
import Depccg.Proofs.JiggSpec

namespace Depccg.Xml
open Depccg Str C15

def XTreeAll (P : Str × Str → Prop) : XTree → Prop
  | .lf a => ∀ kv ∈ a, P kv
  | .rule1 a ch => (∀ kv ∈ a, P kv) ∧ XTreeAll P ch
  | .rule2 a l r => (∀ kv ∈ a, P kv) ∧ XTreeAll P l ∧ XTreeAll P r

def CcgAll (P : Str × Str → Prop) (c : JCcg) : Prop :=
  (∀ kv ∈ c.attrs, P kv) ∧ ∀ sp ∈ c.spans, ∀ kv ∈ sp, P kv

def JSentAll (P : Str × Str → Prop) (s : JSentence) : Prop :=
  (∀ a ∈ s.tokens, ∀ kv ∈ a, P kv) ∧ ∀ c ∈ s.ccgs, CcgAll P c

mutual
def ElemAll (T : Str → Prop) (P : Str × Str → Prop) : Elem → Prop
  | .mk tag attrs kids => T tag ∧ (∀ kv ∈ attrs, P kv) ∧ KidsAll T P kids
def KidsAll (T : Str → Prop) (P : Str × Str → Prop) : List Elem → Prop
  | [] => True
  | k :: ks => ElemAll T P k ∧ KidsAll T P ks
end

mutual
theorem valid_iff : ∀ e : Elem, e.valid = true ↔ ElemAll (fun _ => True) (fun kv => xmlStrOk kv.2 = true) e
  | .mk tag attrs kids => by
    simp only [Elem.valid, ElemAll, Bool.and_eq_true, List.all_eq_true, true_and, validKids_iff kids]
theorem validKids_iff : ∀ ks : List Elem,
    validKids ks = true ↔ KidsAll (fun _ => True) (fun kv => xmlStrOk kv.2 = true) ks
  | [] => by simp only [validKids, KidsAll]
  | k :: ks => by simp only [validKids, KidsAll, Bool.and_eq_true, valid_iff k, validKids_iff ks]
end

theorem docText_ok_iff {e : Elem} {text : Str} :
    docText e = .ok text ↔ e.valid = true ∧ text = e.render 0 := by
  unfold docText
  split
  · next h => exact ⟨fun e => ⟨h, (Except.ok.inj e).symm⟩, fun e => e.2 ▸ rfl⟩
  · next h => exact ⟨(fun e => nomatch e), fun e => absurd e.1 h⟩

theorem jiggText_ok_iff {u : Bool} {batch : List (List (Tree × Option Int))} {text : Str} :
    jiggText u batch = .ok text ↔ ∃ ss, jiggOf u (batch.map fun ts => ts.map fun p => p.1) = .ok ss ∧
      docText (jiggDoc (withScoresAll ss (batch.map fun ts => ts.map fun p => p.2))) = .ok text := by
  unfold jiggText
  split
  · next e he => exact ⟨(fun h => nomatch h), fun ⟨ss, hss, _⟩ => nomatch he.symm.trans hss⟩
  · next ss hss => exact ⟨fun h => ⟨ss, hss, h⟩, fun ⟨ss', hss', h⟩ => Except.ok.inj (hss.symm.trans hss') ▸ h⟩

def tags : List Str := [lit "candc", lit "ccg", lit "rule", lit "lf", lit "root", lit "document", lit "sentences",
  lit "sentence", lit "tokens", lit "token", lit "span"]

section
variable {T : Str → Prop} {P : Str × Str → Prop}

theorem kidsAll_of_forall : ∀ ks : List Elem, (∀ k ∈ ks, ElemAll T P k) → KidsAll T P ks
  | [], _ => by simp only [KidsAll]
  | k :: ks, h => by
    simp only [KidsAll]
    exact ⟨h k List.mem_cons_self, kidsAll_of_forall ks fun x hx => h x (List.mem_cons_of_mem _ hx)⟩

theorem elemAll_mk {tag : Str} {a : Attrs} {kids : List Elem} (hT : ∀ tag ∈ tags, T tag)
    (ha : ∀ kv ∈ a, P kv) (hk : ∀ k ∈ kids, ElemAll T P k) (ht : tag ∈ tags := by unfold tags; decide_lit) :
    ElemAll T P (.mk tag a kids) := by
  simp only [ElemAll]
  exact ⟨hT tag ht, ha, kidsAll_of_forall kids hk⟩

theorem elemOfXTree_all (hT : ∀ tag ∈ tags, T tag) : ∀ x : XTree, XTreeAll P x → ElemAll T P (elemOfXTree x)
  | .lf a, h => elemAll_mk hT h (fun _ hk => nomatch hk)
  | .rule1 a ch, h => elemAll_mk hT h.1 (by simpa using elemOfXTree_all hT ch h.2)
  | .rule2 a l r, h => elemAll_mk hT h.1
      (by simpa using ⟨elemOfXTree_all hT l h.2.1, elemOfXTree_all hT r h.2.2⟩)

theorem xmlOfAux_mem : ∀ (batch : List (List Tree)) (si : Nat) (c : CcgElem), c ∈ xmlOfAux batch si →
    ∃ ts ∈ batch, ∃ t ∈ ts, c.tree = (xmlTree t 0).1
  | [], _, c, h => by cases h
  | trees :: rest, si, c, h => by
    rw [xmlOfAux, List.mem_append] at h
    rcases h with h | h
    · obtain ⟨p, hp, rfl⟩ := List.mem_map.1 h
      exact ⟨trees, List.mem_cons_self .., p.1, List.fst_mem_of_mem_zipIdx hp, rfl⟩
    · obtain ⟨ts, hts, t, ht, e⟩ := xmlOfAux_mem rest (si + 1) c h
      exact ⟨ts, List.mem_cons_of_mem _ hts, t, ht, e⟩

theorem xmlDoc_all (hT : ∀ tag ∈ tags, T tag) (hs : ∀ n, P (lit "sentence", Str.ofNat n))
    (hi : ∀ n, P (lit "id", Str.ofNat n)) (batch : List (List Tree))
    (h : ∀ ts ∈ batch, ∀ t ∈ ts, XTreeAll P (xmlTree t 0).1) : ElemAll T P (xmlDoc batch) := by
  refine elemAll_mk hT (fun _ hkv => nomatch hkv) fun k hk => ?_
  obtain ⟨c, hc, rfl⟩ := List.mem_map.1 hk
  obtain ⟨ts, hts, t, ht, e⟩ := xmlOfAux_mem batch 1 c hc
  refine elemAll_mk hT ?_ (by simpa using elemOfXTree_all hT c.tree (e ▸ h ts hts t ht))
  intro kv hkv
  simp only [List.mem_cons, List.not_mem_nil, or_false] at hkv
  rcases hkv with rfl | rfl
  · exact hs _
  · exact hi _

theorem jiggTrees_all {sid : Nat} {u : Bool} (hid : ∀ i, P (lit "id", ccgId sid i))
    (hroot : ∀ n, P (lit "root", spanId sid n)) (ts : List Tree) (i n : Nat)
    (h : ∀ t ∈ ts, ∀ n rt, ∀ p ∈ occs t n 0, ∀ kv ∈ entry sid u rt p, P kv) : ∀ c ∈ jiggTrees sid u ts i n, CcgAll P c := by
  intro c hc
  rw [trees_map] at hc
  obtain ⟨x, hx, rfl⟩ := List.mem_map.1 hc
  refine ⟨fun kv hkv => ?_, fun sp hsp kv hkv => ?_⟩
  · simp only [ccgOf, List.mem_cons, List.not_mem_nil, or_false] at hkv
    rcases hkv with rfl | rfl
    · exact hid _
    · exact hroot _
  · obtain ⟨p, hp, rfl⟩ := List.mem_map.1 hsp
    exact h x.1 (mem_numberTrees hx) x.2.2 _ p hp kv hkv

theorem jiggOfAux_all (u : Bool) (hid : ∀ sid i, P (lit "id", ccgId sid i))
    (hroot : ∀ sid n, P (lit "root", spanId sid n)) : ∀ (batch : List (List Tree)) (sid : Nat) (ss : List JSentence),
    jiggOfAux u batch sid = .ok ss →
    (∀ ts ∈ batch, ∀ t ∈ ts, ∀ sid n rt, ∀ p ∈ occs t n 0, ∀ kv ∈ entry sid u rt p, P kv) →
    (∀ ts ∈ batch, ∀ t ∈ ts.head?, ∀ sid, ∀ a ∈ sentToks sid t, ∀ kv ∈ a, P kv) →
    ∀ s ∈ ss, JSentAll P s
  | [], _, ss, h, _, _, s, hs => by cases h; cases hs
  | [] :: _, _, ss, h, _, _, _, _ => by rw [jiggOfAux_nil_cons] at h; cases h
  | (t :: ts) :: rest, sid, ss, h, hsp, htok, s, hs => by
    obtain ⟨more, hmore, rfl⟩ := jiggOfAux_cons.1 h
    rcases List.mem_cons.1 hs with rfl | hs
    · exact ⟨htok _ List.mem_cons_self t rfl sid, jiggTrees_all (hid sid) (hroot sid) _ 0 0
        fun t' ht' n rt => hsp _ List.mem_cons_self t' ht' sid n rt⟩
    · exact jiggOfAux_all u hid hroot rest (sid + 1) more hmore (fun ts' h' => hsp ts' (List.mem_cons_of_mem _ h'))
        (fun ts' h' => htok ts' (List.mem_cons_of_mem _ h')) s hs

theorem withScores_all (hs : ∀ s, P (lit "score", scoreAttr s)) :
    ∀ (cs : List JCcg) (sc : List (Option Int)), (∀ c ∈ cs, CcgAll P c) → ∀ c ∈ withScores cs sc, CcgAll P c
  | [], sc, h => by cases sc <;> exact h
  | c :: cs, [], h => h
  | c :: cs, s :: sc, h => by
    intro d hd
    rcases List.mem_cons.1 hd with rfl | hd
    · exact ⟨fun kv hkv => (C06.mem_set hkv).elim (· ▸ hs s) ((h c List.mem_cons_self).1 kv),
        (h c List.mem_cons_self).2⟩
    · exact withScores_all hs cs sc (fun x hx => h x (List.mem_cons_of_mem _ hx)) d hd

theorem withScoresAll_all (hs : ∀ s, P (lit "score", scoreAttr s)) :
    ∀ (ss : List JSentence) (scs : List (List (Option Int))), (∀ s ∈ ss, JSentAll P s) →
      ∀ s ∈ withScoresAll ss scs, JSentAll P s
  | [], scs, h => by cases scs <;> exact h
  | s :: ss, [], h => h
  | s :: ss, sc :: scs, h => by
    intro d hd
    rcases List.mem_cons.1 hd with rfl | hd
    · exact ⟨(h s List.mem_cons_self).1, withScores_all hs _ _ (h s List.mem_cons_self).2⟩
    · exact withScoresAll_all hs ss scs (fun x hx => h x (List.mem_cons_of_mem _ hx)) d hd

theorem elemOfSentence_all (hT : ∀ tag ∈ tags, T tag) {s : JSentence} (h : JSentAll P s) :
    ElemAll T P (elemOfSentence s) := by
  refine elemAll_mk hT (fun _ hkv => nomatch hkv) fun k hk => ?_
  rcases List.mem_cons.1 hk with rfl | hk
  · refine elemAll_mk hT (fun _ hkv => nomatch hkv) fun k hk => ?_
    obtain ⟨a, ha, rfl⟩ := List.mem_map.1 hk
    exact elemAll_mk hT (h.1 a ha) fun _ hk => nomatch hk
  · obtain ⟨c, hc, rfl⟩ := List.mem_map.1 hk
    refine elemAll_mk hT (h.2 c hc).1 fun k hk => ?_
    obtain ⟨sp, hsp, rfl⟩ := List.mem_map.1 hk
    exact elemAll_mk hT ((h.2 c hc).2 sp hsp) fun _ hk => nomatch hk

theorem jiggDoc_all (hT : ∀ tag ∈ tags, T tag) {ss : List JSentence} (h : ∀ s ∈ ss, JSentAll P s) :
    ElemAll T P (jiggDoc ss) := by
  refine elemAll_mk hT (fun _ hkv => nomatch hkv) fun k hk => ?_
  cases List.mem_singleton.1 hk
  refine elemAll_mk hT (fun _ hkv => nomatch hkv) fun k hk => ?_
  cases List.mem_singleton.1 hk
  refine elemAll_mk hT (fun _ hkv => nomatch hkv) fun k hk => ?_
  obtain ⟨s, hs, rfl⟩ := List.mem_map.1 hk
  exact elemOfSentence_all hT (h s hs)

end
end Depccg.Xml
