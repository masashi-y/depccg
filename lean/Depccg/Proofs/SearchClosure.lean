/-
  What both the 1-best and the n-best argument rest on.  Every item ever created is waiting or in
  the trace (`allItems`); the leaves and everything one step away from the chart have been created
  (`Closure`); a final item that was popped is among the results (`FinKept`); and by the consistency
  of the estimate a licensed derivation is either closed, in whichever sense is propagated from the
  children to the parent, or open: dominated by a waiting item (`Open`, `closed_or_open`).  Both
  arguments end in a `RootCover` of the final state, from which the theorems about the results are
  read off: a parse that no result covers is no better than any result (`RootCover.not_better`; the
  step `first_optimal` makes for the best result), and a search that stopped short of `nbest`
  results has covered every parse (`RootCover.complete`).
-/
import Depccg.Proofs.SearchLemmas

namespace Depccg.SearchProps
open Depccg Search

variable {pick : Pick} {g : Grammar} {s : Sent} {cfg : Cfg}

def allItems (st : St) : List Item := st.agenda ++ st.popped

theorem allItems_popSt {st : St} {it : Item} {rest : List Item} (h : (it :: rest).Perm st.agenda) :
    (allItems (popSt st it rest)).Perm (allItems st) :=
  List.perm_middle.trans (h.append_right _)

theorem allItems_pushSt (hp : PickOK pick) (new : List Item)
    {st : St} {it : Item} {rest : List Item} (h : (it :: rest).Perm st.agenda) :
    (allItems (pushSt pick new st it rest)).Perm (new ++ allItems st) :=
  ((hp.push_perm _ rest).append_right _).trans
    (by rw [List.append_assoc]; exact (allItems_popSt h).append_left _)

structure Closure (g : Grammar) (s : Sent) (cfg : Cfg) (st : St) : Prop where
  leaf : ∀ x ∈ leafItems s cfg, x ∈ allItems st
  fin : ∀ c ∈ st.chart, c.len = s.n → s.roots.elem c.cat = true → finItem s c ∈ allItems st
  un : ∀ c ∈ st.chart, (s.n = 1 ∨ c.len ≠ s.n) → ∀ x ∈ unaryItems g cfg c, x ∈ allItems st
  bin : ∀ l ∈ st.chart, ∀ r ∈ st.chart, r.start = l.stop → ∀ x ∈ binaryItems g s l r,
    x ∈ allItems st

theorem Closure.init (hp : PickOK pick) (g : Grammar) (s : Sent) (cfg : Cfg) :
    Closure g s cfg (init pick s cfg) where
  leaf := fun _ h => List.mem_append_left _ (hp.mem_push_nil.2 h)
  fin := fun _ h => by cases h
  un := fun _ h => by cases h
  bin := fun _ h => by cases h

theorem Closure.mono {st st' : St} (h : Closure g s cfg st)
    (hch : st'.chart = st.chart) (hsub : allItems st ⊆ allItems st') : Closure g s cfg st' := by
  refine ⟨fun x hx => hsub (h.leaf x hx), ?_, ?_, ?_⟩ <;> rw [hch]
  · exact fun c hc h1 h2 => hsub (h.fin c hc h1 h2)
  · exact fun c hc h1 x hx => hsub (h.un c hc h1 x hx)
  · exact fun l hl r hr h1 x hx => hsub (h.bin l hl r hr h1 x hx)

theorem Closure.step {st st' : St}
    (hp : PickOK pick) (hok : StOK g s cfg st) (h : Closure g s cfg st)
    (hs : stepWith pick g s cfg st = some st') : Closure g s cfg st' := by
  obtain ⟨-, it, rest, hpick, hcases⟩ := stepWith_cases hs
  have hperm := hp.pop_perm hpick
  rcases hcases with ⟨-, -, rfl⟩ | ⟨-, rfl⟩ | ⟨hcl, rfl⟩
  · exact h.mono rfl (allItems_popSt hperm).symm.subset
  · exact h.mono rfl (allItems_popSt hperm).symm.subset
  · have hP := allItems_pushSt hp (expand g s cfg st.chart it) hperm
    have old : allItems st ⊆ allItems (pushSt pick (expand g s cfg st.chart it) st it rest) :=
      fun x hx => hP.mem_iff.2 (List.mem_append_right _ hx)
    have new : ∀ x, x ∈ expand g s cfg st.chart it →
        x ∈ allItems (pushSt pick (expand g s cfg st.chart it) st it rest) :=
      fun x hx => hP.mem_iff.2 (List.mem_append_left _ hx)
    -- an item is not adjacent to itself: its length is positive
    have hlen := ((hok.agenda it (hperm.mem_iff.1 List.mem_cons_self)).1 hcl.nonfin).len_pos
    refine ⟨fun x hx => old (h.leaf x hx), ?_, ?_, ?_⟩
    · intro c hc h1 h2
      rcases List.mem_cons.1 hc with rfl | hc
      · exact new _ (mem_expand.2 (.inl ⟨h1, h2, rfl⟩))
      · exact old (h.fin c hc h1 h2)
    · intro c hc h1 x hx
      rcases List.mem_cons.1 hc with rfl | hc
      · exact new _ (mem_expand.2 (.inr (.inl ⟨h1, hx⟩)))
      · exact old (h.un c hc h1 x hx)
    · intro l hl r hr hadj x hx
      rcases List.mem_cons.1 hl with rfl | hl' <;> rcases List.mem_cons.1 hr with rfl | hr'
      · simp only [Item.stop] at hadj; omega
      · exact new _ (mem_expand.2 (.inr (.inr (.inl ⟨r, hr', hadj, hx⟩))))
      · exact new _ (mem_expand.2 (.inr (.inr (.inr ⟨l, hl', hadj.symm, hx⟩))))
      · exact old (h.bin l hl' r hr' hadj x hx)

def Open (s : Sent) (cfg : Cfg) (st : St) (d : Deriv) : Prop :=
  ∃ a ∈ st.agenda, Pd s cfg d ≤ a.prio

/-- every licensed derivation is closed or open, for any notion `C` of closed that holds of the
    leaves that are not open and passes from closed children to a parent that is not open: a parent
    of an open child is open, since its priority is no larger than the child's -/
theorem closed_or_open {st : St} {C : Deriv → Prop}
    (hs : SentOK s) (hp : 0 ≤ cfg.penalty)
    (leaf : ∀ t c, Licensed g s cfg (.leaf t c) → C (.leaf t c) ∨ Open s cfg st (.leaf t c))
    (un : ∀ c rid d, Licensed g s cfg (.un c rid d) → C d →
      C (.un c rid d) ∨ Open s cfg st (.un c rid d))
    (bin : ∀ c rid hl l r, Licensed g s cfg (.bin c rid hl l r) → C l → C r →
      C (.bin c rid hl l r) ∨ Open s cfg st (.bin c rid hl l r))
    {d : Deriv} (hd : Licensed g s cfg d) : C d ∨ Open s cfg st d := by
  induction hd with
  | leaf t c sc ht hm => exact leaf t c (.leaf t c sc ht hm)
  | un c rid d hd' hr hu ih =>
    rcases ih with hc | ⟨a, ha, hle⟩
    · exact un c rid d (.un c rid d hd' hr hu) hc
    · exact .inr ⟨a, ha, Int.le_trans (Pd_un_le hp c rid d) hle⟩
  | bin c rid hl l r hl' hr' hadj hrule ihl ihr =>
    have hlic := Licensed.bin c rid hl l r hl' hr' hadj hrule
    have hle := Pd_bin_le hs hp hlic
    rcases ihl with hcl | ⟨a, ha, hla⟩
    · rcases ihr with hcr | ⟨a, ha, hra⟩
      · exact bin c rid hl l r hlic hcl hcr
      · exact .inr ⟨a, ha, Int.le_trans hle.2 hra⟩
    · exact .inr ⟨a, ha, Int.le_trans hle.1 hla⟩

/-- a final item that was popped was returned: `inGoal` can only drop one when a result is there,
    and then the `nbest ≤ 1` results wanted are there and the loop has stopped.  Holds in every mode
    and for every agenda. -/
def FinKept (st : St) : Prop := ∀ x ∈ st.popped, x.fin = true → x ∈ st.goal

theorem FinKept.step {st st' : St} (h : FinKept st) (hs : stepWith pick g s cfg st = some st') :
    FinKept st' := by
  obtain ⟨hlen, it, rest, -, hcases⟩ := stepWith_cases hs
  rcases hcases with ⟨h1, hc, rfl⟩ | ⟨-, rfl⟩ | ⟨hcl, rfl⟩
  · refine List.forall_mem_cons.2 ⟨fun hf => ?_, h⟩
    rw [if_pos hf] at hc
    cases hg : st.goal with
    | nil => rw [hg] at hc; cases hc
    | cons r rs => rw [hg, List.length_cons] at hlen; omega
  · exact List.forall_mem_cons.2
      ⟨fun _ => List.mem_cons_self, fun x hx hxf => List.mem_cons_of_mem _ (h x hx hxf)⟩
  · exact List.forall_mem_cons.2 ⟨fun hf => absurd hf (by simp [hcl.nonfin]), h⟩

/-- every complete parse is among the results, in the sense `R`, or dominated by a waiting item: what
    the 1-best argument (`R r d`: `r` scores at least as much as `d`) and the n-best argument (`R r d`:
    `r` carries `d`) establish of every state, and all that the theorems about the results use -/
def RootCover (g : Grammar) (s : Sent) (cfg : Cfg) (R : Item → Deriv → Prop) (st : St) : Prop :=
  ∀ d, LicensedRoot g s cfg d →
    (∃ r ∈ st.goal, R r d) ∨ ∃ a ∈ st.agenda, modelScore s cfg d ≤ a.prio

theorem RootCover.not_better {R : Item → Deriv → Prop} {st : St} (h : RootCover g s cfg R st)
    (hok : StOK g s cfg st) (hprio : PrioOK st) {d : Deriv} (hd : LicensedRoot g s cfg d)
    (hnot : ¬ ∃ r ∈ st.goal, R r d) {r : Item} (hr : r ∈ st.goal) : modelScore s cfg d ≤ r.prio := by
  rcases h d hd with hg | ⟨a, ha, hle⟩
  · exact absurd hg hnot
  · exact Int.le_trans hle (hprio.bound a ha r (hok.goal_sub r hr))

theorem RootCover.complete {R : Item → Deriv → Prop} (hp : PickOK pick)
    (h : RootCover g s cfg R (finalSt pick g s cfg))
    (hsteps : (runWith pick g s cfg).steps < cfg.maxStep)
    (hshort : (finalSt pick g s cfg).goal.length < cfg.nbest) {d : Deriv}
    (hd : LicensedRoot g s cfg d) : ∃ r ∈ (finalSt pick g s cfg).goal, R r d := by
  rcases h d hd with hg | ⟨a, ha, -⟩
  · exact hg
  · rw [(final_stuck hp hsteps).resolve_left (Nat.not_le.2 hshort)] at ha
    cases ha

end Depccg.SearchProps
