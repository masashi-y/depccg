/-
  `--format conll` at the level of the whole output: the run of `Read.decConllDoc` over the lines
  of one printed record and of all of them.
-/
import Depccg.Props.MainConllDefs
import Depccg.Proofs.PrintLemmas
import Depccg.Props.C07Conll
import Depccg.Proofs.RecordLines

namespace Depccg.CliProps
open Depccg Str Search GlueRun Lazy Print Cli LazyProps Read C07 TextProps FileProps

/-- `Read.stripPrefix` (conll documents) and `Read.lineStripPrefix` (line documents) are one function -/
theorem mc_stripPrefix_eq : ∀ s p : Str, stripPrefix s p = lineStripPrefix s p
  | s, [] => by cases s <;> rfl
  | [], _ :: _ => rfl
  | x :: xs, p :: ps => by simp only [lineStripPrefix, stripPrefix, mc_stripPrefix_eq xs ps]

theorem mc_idPrefix_eq : conllIdPrefix = 35 :: lit " ID=" := by unfold conllIdPrefix; decide_lit

theorem mc_decRow_head {l : Str} {r : ConllRow} (h : decConllRow l = some r) :
    ∃ c rest, l = c :: rest ∧ 48 ≤ c ∧ c ≤ 57 := by
  obtain ⟨a, _, hi, _, heq⟩ := decConllRow_cols h
  obtain ⟨c, a', rfl, h1, h2⟩ := cn_conllNat_head hi
  have hp := splitOn_head_prefix 9 l
  rw [heq, List.headD_cons] at hp
  obtain ⟨t, rfl⟩ := hp
  exact ⟨c, a' ++ t, rfl, h1, h2⟩

/-- a state in which a record may end -/
def Closable : ConllDocSt → Prop
  | .between => True
  | .afterId _ => False
  | .table _ _ rows => rows ≠ []

def closeAcc : ConllDocSt → List ConllRecord → List ConllRecord
  | .table n s rows, acc => (n, s, rows.reverse) :: acc
  | _, acc => acc

theorem mc_step_empty {st : ConllDocSt} (h : Closable st) (acc : List ConllRecord) :
    conllDocStep st acc [] = some (.between, closeAcc st acc) := by
  match st, h with
  | .between, _ => rfl
  | .table n s (r :: rows), _ => rfl

theorem mc_start_id (n : Nat) (acc : List ConllRecord) :
    conllDocStart (conllIdPrefix ++ Str.ofNat n) acc = some (.afterId n, acc) := by
  have hne : (conllIdPrefix ++ Str.ofNat n).isEmpty = false := by
    rw [mc_idPrefix_eq]; rfl
  simp only [conllDocStart, hne, mc_stripPrefix_eq, lineStripPrefix_append, cn_conllNat_ofNat]
  rfl

theorem mc_step_id {st : ConllDocSt} (h : Closable st) (n : Nat) (acc : List ConllRecord) :
    conllDocStep st acc (conllIdPrefix ++ Str.ofNat n) = some (.afterId n, closeAcc st acc) := by
  match st, h with
  | .between, _ => exact mc_start_id n acc
  | .table m s (r :: rows), _ =>
    simp only [conllDocStep, mc_stripPrefix_eq, lineStripPrefix_append, Option.isSome_some, Bool.or_true, if_true,
      closeAcc]
    exact mc_start_id n _

theorem mc_step_prob (n : Nat) (s : Str) (acc : List ConllRecord) :
    conllDocStep (.afterId n) acc (conllProbPrefix ++ s) = some (.table n s [], acc) := by
  simp only [conllDocStep, mc_stripPrefix_eq, lineStripPrefix_append]

theorem mc_step_row {l : Str} {r : ConllRow} (h : decConllRow l = some r) (n : Nat) (s : Str)
    (rows : List ConllRow) (acc : List ConllRecord) :
    conllDocStep (.table n s rows) acc l = some (.table n s (r :: rows), acc) := by
  obtain ⟨c, rest, rfl, h1, _⟩ := mc_decRow_head h
  have hs : stripPrefix (c :: rest) conllIdPrefix = none := by
    rw [mc_idPrefix_eq]
    simp [stripPrefix, show c ≠ 35 by omega]
  simp only [conllDocStep, hs, List.isEmpty_cons, Option.isSome_none, Bool.or_self, h]
  rfl

theorem mc_run_rows : ∀ (ls : List Str) (rs : List ConllRow), decConllRows ls = some rs →
    ∀ (n : Nat) (s : Str) (rows : List ConllRow) (acc : List ConllRecord) (more : List Str),
    conllDocRun (.table n s rows) acc (ls ++ more) =
      conllDocRun (.table n s (rs.reverse ++ rows)) acc more
  | [], rs, h => by
    cases h
    intros
    rfl
  | l :: ls, rs, h => by
    intro n s rows acc more
    obtain ⟨r, rs', h1, h2, rfl⟩ := decConllRows_cons h
    simp only [List.cons_append, conllDocRun, mc_step_row h1]
    rw [mc_run_rows ls rs' h2]
    simp

theorem mc_run_record {st : ConllDocSt} (hst : Closable st) (acc : List ConllRecord) (n : Nat)
    (sc : Str) (ls : List Str) (rs : List ConllRow) (hd : decConllRows ls = some rs)
    (more : List Str) :
    conllDocRun st acc ((conllIdPrefix ++ Str.ofNat n) :: (conllProbPrefix ++ sc) :: (ls ++ more)) =
      conllDocRun (.table n sc rs.reverse) (closeAcc st acc) more := by
  simp only [conllDocRun, mc_step_id hst, mc_step_prob]
  rw [mc_run_rows ls rs hd]
  simp

theorem mc_decRows_ne_nil {ls : List Str} {rs : List ConllRow} (hne : ls ≠ [])
    (h : decConllRows ls = some rs) : rs ≠ [] := by
  intro h0
  have := (cn_decRows_length ls rs h).1
  rw [h0] at this
  exact hne (List.length_eq_zero_iff.1 this)

theorem mc_run_end : ∀ (tail : List Str), tail.all (fun l => l.isEmpty) = true →
    ∀ (st : ConllDocSt) (acc : List ConllRecord), Closable st →
    conllDocRun st acc tail = some (closeAcc st acc).reverse
  | [], _, st, acc, hst => by
    match st, hst with
    | .between, _ => rfl
    | .table n s (r :: rows), _ => rfl
  | [] :: tail, ht, st, acc, hst => by
    rw [conllDocRun, mc_step_empty hst]
    exact mc_run_end tail (by simpa using ht) .between _ trivial
  | (_ :: _) :: _, ht, _, _, _ => by cases ht

theorem mc_header_lines (n : Nat) {sc : Str} (hsc : 10 ∉ sc) :
    splitOn 10 (header true n sc) = [conllIdPrefix ++ Str.ofNat n, conllProbPrefix ++ sc] := by
  have hl : lit "\n# log probability=" = 10 :: conllProbPrefix := by
    unfold conllProbPrefix; decide_lit
  have e : header true n sc = (conllIdPrefix ++ Str.ofNat n) ++ 10 :: (conllProbPrefix ++ sc) := by
    simp [header_true, hl, conllIdPrefix]
  have h1 : 10 ∉ conllIdPrefix ++ Str.ofNat n := by
    simp only [List.mem_append, not_or]
    exact ⟨by unfold conllIdPrefix; decide_lit, ofNat_notMem n (by decide)⟩
  have h2 : 10 ∉ conllProbPrefix ++ sc := by
    simp only [List.mem_append, not_or]
    exact ⟨by unfold conllProbPrefix; decide_lit, hsc⟩
  rw [e, splitOn_sep 10 h1, splitOn_of_notMem 10 h2]

theorem mc_run_docLines (tail : List Str) (ht : tail.all (fun l => l.isEmpty) = true) :
    ∀ {recs : List (Nat × (Tree × Str))} {out : List LineRecord},
    Forall2 (LineRecOf conllOf) recs out →
    (∀ p ∈ recs, AllCats (fun c => Cell c.str) p.2.1 ∧ AllToks TokCells p.2.1 ∧ 10 ∉ p.2.2) →
    ∀ (st : ConllDocSt) (acc : List ConllRecord), Closable st →
    conllDocRun st acc (docLines true out ++ tail) =
      some ((closeAcc st acc).reverse ++ recs.map fun p => (p.1, p.2.2, viewConll p.2.1))
  | _, _, .nil, _, st, acc, hst => by simpa [docLines] using mc_run_end tail ht st acc hst
  | p :: recs, (n, sc, s) :: out, .cons ⟨hn, hsc, hs⟩ hf, hok, st, acc, hst => by
    obtain ⟨h1, h2, h3⟩ := hok p List.mem_cons_self
    cases hn
    cases hsc
    -- `decConll s` is `decConllRows (splitOn 10 s)` by definition
    have hdec : decConllRows (splitOn 10 s) = some (viewConll p.2.1) := conll_decode p.2.1 s h1 h2 hs
    have hne : (viewConll p.2.1).reverse ≠ [] := fun h0 =>
      mc_decRows_ne_nil (splitOn_ne_nil 10 s) hdec (List.reverse_eq_nil_iff.1 h0)
    rw [docLines_cons, mc_header_lines p.1 h3]
    simp only [List.cons_append, List.nil_append, List.append_assoc]
    rw [mc_run_record hst acc p.1 p.2.2 _ _ hdec,
      mc_run_docLines tail ht hf (fun q hq => hok q (List.mem_cons_of_mem _ hq))
        (.table p.1 p.2.2 (viewConll p.2.1).reverse) _ hne]
    simp [closeAcc]

/-- `rest`: for the newline `print` adds after the text -/
theorem mc_run_doc (batch : List (List (Tree × Str))) (text : Str)
    (h : ∀ ts ∈ batch, ∀ p ∈ ts,
      AllCats (fun c => Cell c.str) p.1 ∧ AllToks TokCells p.1 ∧ 10 ∉ p.2)
    (hp : toStringLines conllOf true batch = .ok text) (rest : Str)
    (hr : (splitOn 10 rest).all (fun l => l.isEmpty) = true) :
    decConllDoc (text ++ rest) =
      some ((numbered batch).map fun p => (p.1, p.2.2, viewConll p.2.1)) := by
  obtain ⟨out, hf, hl⟩ := toStringLines_lines conllOf true (numbered batch) text hp
  rw [decConllDoc, hl, mc_run_docLines _ hr hf (Print.forall_numbered h) .between [] trivial]
  rfl

end Depccg.CliProps
