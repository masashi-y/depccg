import Depccg.Str

namespace Depccg.Str

/-- The code points of a literal, read off in one step: the kernel sees `"abc"` as
    `String.ofList ['a', 'b', 'c']`, so rewriting with this lemma costs one linear check.
    Evaluating `lit "abc"` instead runs `String.toList`, a UTF-8 decoder over a byte array that is
    quadratic in the length of the text, and runs it again at every place where the function
    being evaluated inspects the string. -/
theorem lit_ofList (l : List Char) : lit (String.ofList l) = l.map Char.toNat :=
  congrArg _ String.toList_ofList

/-- for `decide_lit`: a literal written over several lines as `lit ("…" ++ "…")` is split, so that
    `lit_ofList` meets literals only -/
theorem lit_append (a b : String) : lit (a ++ b) = lit a ++ lit b := by
  simp [lit, String.toList_append]

/-- `decide +kernel` on a goal whose string literals have first been decoded by `lit_ofList`.
    Definitions that hide a literal have to be unfolded by the caller. -/
macro "decide_lit" : tactic =>
  `(tactic| ((try simp only [lit_append]); (repeat rw [lit_ofList]); decide +kernel))

end Depccg.Str
