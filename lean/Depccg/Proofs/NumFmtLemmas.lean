/-
  `Cli.fmt5e`, the html score text `'{:.5e}'`, computes on the exact value `n / 10^6`, `n = |k| · 15625` (a score `k : Int` stands for
  `k/64`).  The six digits and the exponent that it prints are named (`qOf n`, `eOf n`; `nf_fmt5e_eq`) and the reader `dec5e` gets them
  back from the text; the rest is arithmetic on `qOf` and `eOf`: the pair is `n` rounded to six digits, half to even (`nf_err_round`),
  and monotone in `n` (`nf_mono`).
-/
import Depccg.Props.NumFmtDefs
import Depccg.Proofs.StrLemmas

namespace Depccg.NumProps
open Depccg Str Cli

/-- the six digits after rounding, before the carry is folded into the exponent -/
def q1Of (n : Nat) : Nat :=
  let len := (Str.ofNat n).length
  let q0 := if len ≤ 6 then n * 10 ^ (6 - len) else n / 10 ^ (len - 6)
  let r := if len ≤ 6 then 0 else n % 10 ^ (len - 6)
  let p := 10 ^ (len - 6)
  let up := len > 6 ∧ (2 * r > p ∨ (2 * r = p ∧ q0 % 2 = 1))
  if up then q0 + 1 else q0

def qOf (n : Nat) : Nat := if q1Of n = 1000000 then 100000 else q1Of n

def eOf (n : Nat) : Int := ((Str.ofNat n).length : Int) - 7 + (if q1Of n = 1000000 then 1 else 0)

/-- `d.ddddde±XX`: the digits of `q` with a point after the first, the exponent with its sign and
    at least two digits -/
def sciText (q : Nat) (e : Int) : Str :=
  (Str.ofNat q).take 1 ++ [46] ++ (Str.ofNat q).drop 1 ++ [101] ++ (if e < 0 then [45] else [43])
    ++ (if (Str.ofNat e.natAbs).length < 2 then [48] else []) ++ Str.ofNat e.natAbs

theorem nf_fmt5e_eq (k : Int) (hk : k ≠ 0) :
    fmt5e k = (if k < 0 then [45] else []) ++ sciText (qOf (k.natAbs * 15625)) (eOf (k.natAbs * 15625)) := by
  have hn : ¬ k.natAbs * 15625 = 0 := by omega
  unfold fmt5e
  simp only [if_neg hn, sciText, List.append_assoc]
  rfl

theorem q1Of_short {n : Nat} (h : (Str.ofNat n).length ≤ 6) :
    q1Of n = n * 10 ^ (6 - (Str.ofNat n).length) := by
  unfold q1Of
  simp only [if_pos h]
  rw [if_neg (by omega)]

/-- more than six digits: `n / p` are the first six, rounded half to even by the rest `n % p` -/
theorem q1Of_long {n : Nat} (h : 6 < (Str.ofNat n).length) (p : Nat)
    (hp : p = 10 ^ ((Str.ofNat n).length - 6)) :
    (q1Of n = n / p + 1 ∧ (2 * (n % p) > p ∨ (2 * (n % p) = p ∧ n / p % 2 = 1))) ∨
    (q1Of n = n / p ∧ ¬ (2 * (n % p) > p ∨ (2 * (n % p) = p ∧ n / p % 2 = 1))) := by
  subst hp
  unfold q1Of
  simp only [if_neg (Nat.not_le.2 h)]
  split
  · next hu => exact .inl ⟨rfl, hu.2⟩
  · next hu => exact .inr ⟨rfl, fun hup => hu ⟨h, hup⟩⟩

theorem nf_first_six {n : Nat} (hn : 0 < n) (h : 6 < (Str.ofNat n).length) :
    100000 ≤ n / 10 ^ ((Str.ofNat n).length - 6) ∧ n / 10 ^ ((Str.ofNat n).length - 6) < 1000000 := by
  have ⟨b1, b2⟩ := ofNat_bounds n hn
  generalize (Str.ofNat n).length = L at *
  have hp : 0 < 10 ^ (L - 6) := Nat.pow_pos (by omega)
  have e1 : 100000 * 10 ^ (L - 6) = 10 ^ (L - 1) := by
    rw [show 100000 = 10 ^ 5 from rfl, ← Nat.pow_add, show 5 + (L - 6) = L - 1 by omega]
  have e2 : 1000000 * 10 ^ (L - 6) = 10 ^ L := by
    rw [show 1000000 = 10 ^ 6 from rfl, ← Nat.pow_add, show 6 + (L - 6) = L by omega]
  rw [Nat.le_div_iff_mul_le hp, Nat.div_lt_iff_lt_mul hp]
  omega

theorem nf_q1Of_bounds (n : Nat) (hn : 0 < n) : 100000 ≤ q1Of n ∧ q1Of n ≤ 1000000 := by
  by_cases hlen : (Str.ofNat n).length ≤ 6
  · have ⟨b1, b2⟩ := ofNat_bounds n hn
    have hp := ofNat_length_pos n
    rw [q1Of_short hlen]
    generalize (Str.ofNat n).length = L at *
    have e1 : 10 ^ (L - 1) * 10 ^ (6 - L) = 100000 := by
      rw [← Nat.pow_add, show L - 1 + (6 - L) = 5 by omega]
    have e2 : 10 ^ L * 10 ^ (6 - L) = 1000000 := by
      rw [← Nat.pow_add, show L + (6 - L) = 6 by omega]
    have m1 := Nat.mul_le_mul_right (10 ^ (6 - L)) b1
    have m2 := Nat.mul_le_mul_right (10 ^ (6 - L)) (Nat.le_of_lt b2)
    omega
  · have ⟨h1, h2⟩ := nf_first_six hn (Nat.not_le.1 hlen)
    rcases q1Of_long (Nat.not_le.1 hlen) _ rfl with ⟨h, _⟩ | ⟨h, _⟩
    · omega
    · omega

theorem nf_qOf_bounds (n : Nat) (hn : 0 < n) : 100000 ≤ qOf n ∧ qOf n < 1000000 := by
  have := nf_q1Of_bounds n hn
  unfold qOf
  split <;> omega

theorem natOfDigits_digits {s : Str} (hne : s ≠ []) (h : ∀ c ∈ s, 48 ≤ c ∧ c ≤ 57) :
    natOfDigits s = some (ofDigits 0 s) := by
  cases s with
  | nil => exact absurd rfl hne
  | cons c cs => exact foldl_digits (fun a c hc => by simp [digitVal, hc]) 0 h

/-- the exponent digits, padded to two -/
theorem natOfDigits_pad (m : Nat) :
    ∃ es, (if (Str.ofNat m).length < 2 then [48] else []) ++ Str.ofNat m = es ∧
      natOfDigits es = some m ∧ ¬ es.length < 2 := by
  have hd := ofNat_digits m
  by_cases h : (Str.ofNat m).length < 2
  · refine ⟨48 :: Str.ofNat m, by rw [if_pos h]; rfl, ?_, ?_⟩
    · rw [natOfDigits_digits (List.cons_ne_nil _ _) (List.forall_mem_cons.2 ⟨by omega, hd⟩)]
      exact congrArg some ((ofDigits_zeros _ 1).trans (ofDigits_ofNat m))
    · have := ofNat_length_pos m
      rw [List.length_cons]
      omega
  · refine ⟨Str.ofNat m, by rw [if_neg h]; rfl, ?_, h⟩
    rw [natOfDigits_digits (ofNat_ne_nil m) hd, ofDigits_ofNat]

theorem nf_six_digits {q : Nat} (h1 : 100000 ≤ q) (h2 : q < 1000000) :
    ∃ d0 d1 d2 d3 d4 d5, Str.ofNat q = [d0, d1, d2, d3, d4, d5] ∧ 48 ≤ d0 := by
  have hl : (Str.ofNat q).length = 6 :=
    Nat.le_antisymm (ofNat_length_le (by omega) h2) (lt_ofNat_length (k := 5) h1)
  match hs : Str.ofNat q, hl with
  | [d0, d1, d2, d3, d4, d5], _ =>
    exact ⟨d0, d1, d2, d3, d4, d5, rfl, (ofNat_digits q d0 (by rw [hs]; simp)).1⟩

theorem dec5e_text (s : Prop) [Decidable s] {d0 d1 d2 d3 d4 d5 q m : Nat} (sg : Nat) {es : Str}
    (hd0 : d0 ≠ 45) (hq : natOfDigits [d0, d1, d2, d3, d4, d5] = some q)
    (he : natOfDigits es = some m) (hl : ¬ es.length < 2) :
    dec5e ((if s then [45] else []) ++ d0 :: 46 :: d1 :: d2 :: d3 :: d4 :: d5 :: 101 :: sg :: es) =
      if sg = 43 then some (decide s, q, (m : Int)) else if sg = 45 then some (decide s, q, -(m : Int))
      else none := by
  have hb : (d0 == 45) = false := by simpa using hd0
  by_cases hs : s <;> simp [dec5e, hs, hq, he, hl, hb]

theorem dec5e_sciText (s : Prop) [Decidable s] {q : Nat} (e : Int) (h1 : 100000 ≤ q)
    (h2 : q < 1000000) : dec5e ((if s then [45] else []) ++ sciText q e) = some (decide s, q, e) := by
  obtain ⟨d0, d1, d2, d3, d4, d5, hds, hd0⟩ := nf_six_digits h1 h2
  have hq : natOfDigits [d0, d1, d2, d3, d4, d5] = some q := by
    rw [← hds, natOfDigits_digits (ofNat_ne_nil _) (ofNat_digits _), ofDigits_ofNat]
  obtain ⟨es, hes, hev, hel⟩ := natOfDigits_pad e.natAbs
  simp only [sciText, hds, List.append_assoc, hes]
  by_cases he : e < 0
  · rw [if_pos he]
    exact (dec5e_text s 45 (by omega) hq hev hel).trans (by rw [show -(e.natAbs : Int) = e by omega]; rfl)
  · rw [if_neg he]
    exact (dec5e_text s 43 (by omega) hq hev hel).trans (by rw [show (e.natAbs : Int) = e by omega]; rfl)

theorem nf_dec5e_fmt5e (k : Int) (hk : k ≠ 0) :
    dec5e (fmt5e k) = some (decide (k < 0), qOf (k.natAbs * 15625), eOf (k.natAbs * 15625)) := by
  have ⟨q1, q2⟩ := nf_qOf_bounds (k.natAbs * 15625) (by omega)
  rw [nf_fmt5e_eq k hk]
  exact dec5e_sciText _ _ q1 q2

/-- rounding `n = p * q0 + r` to a multiple of `p`, half to even: the error is at most `p / 2`, and
    exactly that only at an even multiple (all times ten, as in `err7`) -/
theorem nf_halfEven_err (p q0 r n q : Nat) (hnr : n = p * q0 + r) (hr : r < p)
    (h : (q = q0 + 1 ∧ (2 * r > p ∨ (2 * r = p ∧ q0 % 2 = 1))) ∨
         (q = q0 ∧ ¬ (2 * r > p ∨ (2 * r = p ∧ q0 % 2 = 1)))) :
    2 * ((q : Int) * (10 * (p : Int)) - 10 * (n : Int)).natAbs ≤ 10 * p ∧
    (2 * ((q : Int) * (10 * (p : Int)) - 10 * (n : Int)).natAbs = 10 * p → q % 2 = 0) := by
  rw [Int.mul_left_comm, ← Int.natCast_mul, hnr, Nat.mul_comm q p]
  rcases h with ⟨rfl, hup⟩ | ⟨rfl, hup⟩
  · rw [Nat.mul_succ]
    omega
  · omega

theorem nf_eOf_ge {n : Nat} (hn : 15625 ≤ n) : -2 ≤ eOf n := by
  have hL : 4 < (Str.ofNat n).length := lt_ofNat_length (by omega)
  unfold eOf
  split <;> omega

/-- a number of at most six digits is printed as it is -/
theorem nf_err_exact {n : Nat} (hn : 15625 ≤ n) (hlen : (Str.ofNat n).length ≤ 6) :
    (qOf n : Int) * 10 ^ (eOf n + 2).toNat = 10 * (n : Int) := by
  have hL : 4 < (Str.ofNat n).length := lt_ofNat_length (by omega)
  have hq := q1Of_short hlen
  have hb := (ofNat_bounds n (by omega)).2
  unfold qOf eOf
  generalize (Str.ofNat n).length = L at *
  have e1 : 10 ^ L * 10 ^ (6 - L) = 1000000 := by
    rw [← Nat.pow_add, show L + (6 - L) = 6 by omega]
  have hc : ¬ q1Of n = 1000000 := by
    have := Nat.mul_lt_mul_of_pos_right hb (Nat.pow_pos (n := 6 - L) (by omega : 0 < 10))
    omega
  have e2 : q1Of n * 10 ^ (L - 5) = 10 * n := by
    rw [hq, Nat.mul_assoc, ← Nat.pow_add, show 6 - L + (L - 5) = 1 by omega]
    omega
  rw [if_neg hc, if_neg hc, show ((L : Int) - 7 + 0 + 2).toNat = L - 5 by omega]
  exact_mod_cast e2

/-- the printed digits and exponent are the correctly rounded ones; a carry out of `999999` is the
    rounding up to `1000000`, written with one digit less and the next exponent -/
theorem nf_err_round {n : Nat} (hn : 15625 ≤ n) :
    2 * ((qOf n : Int) * 10 ^ (eOf n + 2).toNat - 10 * (n : Int)).natAbs ≤ 10 ^ (eOf n + 2).toNat ∧
    (2 * ((qOf n : Int) * 10 ^ (eOf n + 2).toNat - 10 * (n : Int)).natAbs = 10 ^ (eOf n + 2).toNat →
      qOf n % 2 = 0) := by
  by_cases hlen : (Str.ofNat n).length ≤ 6
  · rw [nf_err_exact hn hlen, Int.sub_self]
    exact ⟨Nat.zero_le _, fun h => absurd h.symm (Nat.ne_of_gt (Nat.pow_pos (by omega)))⟩
  · obtain ⟨p, hp⟩ : ∃ p, p = 10 ^ ((Str.ofNat n).length - 6) := ⟨_, rfl⟩
    have hp0 : 0 < p := hp ▸ Nat.pow_pos (by omega)
    have hr := nf_halfEven_err p (n / p) (n % p) n (q1Of n) (Nat.div_add_mod n p).symm (Nat.mod_lt n hp0)
      (q1Of_long (Nat.not_le.1 hlen) p hp)
    unfold qOf eOf
    generalize (Str.ofNat n).length = L at *
    have hpowN : 10 ^ (L - 5) = 10 * p := by
      rw [hp, show L - 5 = (L - 6) + 1 by omega, Nat.pow_succ, Nat.mul_comm]
    have hpow : (10 : Int) ^ (L - 5) = 10 * (p : Int) := by exact_mod_cast hpowN
    split
    · next hc =>
      rw [show ((L : Int) - 7 + 1 + 2).toNat = L - 5 + 1 by omega, Nat.pow_succ, Int.pow_succ, hpow, hpowN,
        show ((100000 : Nat) : Int) * (10 * (p : Int) * 10) = ((1000000 : Nat) : Int) * (10 * p) by omega,
        ← hc]
      exact ⟨Nat.le_trans hr.1 (Nat.le_mul_of_pos_right _ (by decide)), fun _ => rfl⟩
    · rw [show ((L : Int) - 7 + 0 + 2).toNat = L - 5 by omega, hpow, hpowN]
      exact hr

theorem nf_q1Of_mono {a b : Nat} (hab : a ≤ b)
    (hlen : (Str.ofNat a).length = (Str.ofNat b).length) : q1Of a ≤ q1Of b := by
  by_cases la : (Str.ofNat a).length ≤ 6
  · rw [q1Of_short la, q1Of_short (hlen ▸ la), hlen]
    exact Nat.mul_le_mul_right _ hab
  · obtain ⟨p, hp⟩ : ∃ p, p = 10 ^ ((Str.ofNat a).length - 6) := ⟨_, rfl⟩
    have hp0 : 0 < p := hp ▸ Nat.pow_pos (by omega)
    have hqa := q1Of_long (Nat.not_le.1 la) p hp
    have hqb := q1Of_long (hlen ▸ Nat.not_le.1 la) p (hlen ▸ hp)
    have hq : a / p ≤ b / p := Nat.div_le_div_right hab
    have hna := Nat.div_add_mod a p
    have hnb := Nat.div_add_mod b p
    have hra := Nat.mod_lt a hp0
    have hrb := Nat.mod_lt b hp0
    generalize a / p = q0a at *
    generalize b / p = q0b at *
    rcases Nat.lt_or_ge q0a q0b with hlt | hge
    · omega
    · have : q0a = q0b := by omega
      subst this
      generalize p * q0a = m at *
      omega

theorem nf_mono {a b : Nat} (ha : 15625 ≤ a) (hab : a ≤ b) :
    eOf a < eOf b ∨ (eOf a = eOf b ∧ qOf a ≤ qOf b) := by
  have hl : (Str.ofNat a).length ≤ (Str.ofNat b).length :=
    ofNat_length_le (ofNat_length_pos b) (Nat.lt_of_le_of_lt hab (ofNat_bounds b (by omega)).2)
  have ⟨a1, a2⟩ := nf_q1Of_bounds a (by omega)
  have ⟨b1, b2⟩ := nf_q1Of_bounds b (by omega)
  rcases Nat.lt_or_ge (Str.ofNat a).length (Str.ofNat b).length with hlt | hge
  · unfold eOf qOf
    split <;> split <;> omega
  · have heq : (Str.ofNat a).length = (Str.ofNat b).length := by omega
    have hm := nf_q1Of_mono hab heq
    unfold eOf qOf
    rw [heq]
    split <;> split <;> omega

end Depccg.NumProps
