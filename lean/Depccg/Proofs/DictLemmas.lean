/-
  Python dicts as association lists: what `get?` reads after `set` and after a sequence of writes
  (`setAll`), and when it is membership (`Functional`). The namespace is `Depccg.C06`, in whose
  statements `setAll` is named.
-/
import Depccg.Unify

namespace Depccg.C06
open Depccg

variable {κ α : Type} [DecidableEq κ]

@[simp] theorem get?_nil (k : κ) : Dict.get? ([] : Dict κ α) k = none := rfl

theorem get?_cons (k' k : κ) (v : α) (d : Dict κ α) :
    Dict.get? ((k', v) :: d) k = if k' = k then some v else Dict.get? d k := rfl

theorem get?_eq_find? [BEq κ] [LawfulBEq κ] (d : Dict κ α) (k : κ) :
    Dict.get? d k = (d.find? (·.1 == k)).map (·.2) := by
  induction d with
  | nil => rfl
  | cons e d ih =>
    rw [get?_cons, List.find?_cons, ih]
    by_cases h : e.1 = k
    · rw [if_pos h, beq_iff_eq.2 h]; rfl
    · rw [if_neg h, beq_eq_false_iff_ne.2 h]

theorem get?_set (d : Dict κ α) (k k' : κ) (v : α) :
    Dict.get? (Dict.set d k v) k' = if k = k' then some v else Dict.get? d k' := by
  induction d with
  | nil => rfl
  | cons e d ih =>
    obtain ⟨a, w⟩ := e
    by_cases h : a = k
    · subst h
      simp only [Dict.set, if_true, get?_cons]
      split <;> rfl
    · simp only [Dict.set, if_neg h, get?_cons, ih]
      by_cases h' : a = k'
      · have hk : k ≠ k' := fun e => h (h'.trans e.symm)
        simp only [if_pos h', if_neg hk]
      · simp only [if_neg h']

theorem get?_set_self (d : Dict κ α) (k : κ) (v : α) : Dict.get? (Dict.set d k v) k = some v := by
  rw [get?_set, if_pos rfl]

theorem get?_set_ne {d : Dict κ α} {k k' : κ} {v : α} (hne : k ≠ k') :
    Dict.get? (Dict.set d k v) k' = Dict.get? d k' := by
  rw [get?_set, if_neg hne]

theorem mem_of_get? {d : Dict κ α} {k : κ} {v : α} (h : Dict.get? d k = some v) : (k, v) ∈ d := by
  induction d with
  | nil => cases h
  | cons e d ih =>
    obtain ⟨a, w⟩ := e
    rw [get?_cons] at h
    split at h
    next ha => cases h; cases ha; exact List.mem_cons_self
    next => exact List.mem_cons_of_mem _ (ih h)

theorem get?_isSome_of_mem {d : Dict κ α} {k : κ} {v : α} (h : (k, v) ∈ d) :
    ∃ v', Dict.get? d k = some v' := by
  induction d with
  | nil => cases h
  | cons e d ih =>
    obtain ⟨a, w⟩ := e
    rw [get?_cons]
    split
    next => exact ⟨w, rfl⟩
    next ha =>
      rcases List.mem_cons.1 h with h | h
      · cases h; exact absurd rfl ha
      · exact ih h

theorem get?_eq_none_iff {d : Dict κ α} {k : κ} : Dict.get? d k = none ↔ ∀ v, (k, v) ∉ d := by
  constructor
  · intro h v hv
    obtain ⟨v', hv'⟩ := get?_isSome_of_mem hv
    rw [h] at hv'; cases hv'
  · intro h
    cases hg : Dict.get? d k with
    | none => rfl
    | some v => exact absurd (mem_of_get? hg) (h v)

theorem mem_keys_iff {d : Dict κ α} {k : κ} : k ∈ Dict.keys d ↔ ∃ v, Dict.get? d k = some v := by
  constructor
  · intro h
    obtain ⟨⟨_, v⟩, he, rfl⟩ := List.mem_map.1 h
    exact get?_isSome_of_mem he
  · rintro ⟨v, hv⟩
    exact List.mem_map.2 ⟨(k, v), mem_of_get? hv, rfl⟩

/-- no key is listed with two values: then `get?` is membership (`Functional.get?_iff`) -/
def Functional (d : List (κ × α)) : Prop := ∀ k v v', (k, v) ∈ d → (k, v') ∈ d → v = v'

theorem Functional.get?_iff {d : Dict κ α} (hf : Functional d) {k : κ} {v : α} :
    Dict.get? d k = some v ↔ (k, v) ∈ d := by
  constructor
  · exact mem_of_get?
  · intro h
    obtain ⟨v', hv'⟩ := get?_isSome_of_mem h
    rw [hv', hf k v' v (mem_of_get? hv') h]

def setAll (d : Dict κ α) (W : List (κ × α)) : Dict κ α :=
  W.foldl (fun d e => Dict.set d e.1 e.2) d

@[simp] theorem setAll_nil (d : Dict κ α) : setAll d [] = d := rfl

@[simp] theorem setAll_cons (d : Dict κ α) (e : κ × α) (W : List (κ × α)) :
    setAll d (e :: W) = setAll (Dict.set d e.1 e.2) W := rfl

theorem setAll_append (d : Dict κ α) (W₁ W₂ : List (κ × α)) :
    setAll d (W₁ ++ W₂) = setAll (setAll d W₁) W₂ :=
  List.foldl_append

theorem get?_setAll_sub {W : List (κ × α)} {d : Dict κ α} {k : κ} {v : α}
    (h : Dict.get? (setAll d W) k = some v) : (k, v) ∈ W ∨ Dict.get? d k = some v := by
  induction W generalizing d with
  | nil => exact Or.inr h
  | cons e W ih =>
    rcases ih h with h' | h'
    · exact Or.inl (List.mem_cons_of_mem _ h')
    · rw [get?_set] at h'
      split at h'
      next hk => cases h'; cases hk; exact Or.inl List.mem_cons_self
      next => exact Or.inr h'

theorem get?_setAll_notin {W : List (κ × α)} {d : Dict κ α} {k : κ}
    (hk : ∀ v, (k, v) ∉ W) : Dict.get? (setAll d W) k = Dict.get? d k := by
  induction W generalizing d with
  | nil => rfl
  | cons e W ih =>
    rw [setAll_cons, ih (fun v hv => hk v (List.mem_cons_of_mem _ hv))]
    apply get?_set_ne
    intro he
    exact hk e.2 (by rw [← he]; exact List.mem_cons_self)

theorem get?_setAll_mem (W : List (κ × α)) (d : Dict κ α) {k : κ} {v₀ : α} (h : (k, v₀) ∈ W) :
    ∃ v, Dict.get? (setAll d W) k = some v ∧ (k, v) ∈ W := by
  induction W generalizing d v₀ with
  | nil => cases h
  | cons e W ih =>
    by_cases hex : ∃ v', (k, v') ∈ W
    · obtain ⟨v', hv'⟩ := hex
      obtain ⟨v, hg, hm⟩ := ih (Dict.set d e.1 e.2) hv'
      exact ⟨v, hg, List.mem_cons_of_mem _ hm⟩
    · rcases List.mem_cons.1 h with rfl | h
      · refine ⟨v₀, ?_, List.mem_cons_self⟩
        rw [setAll_cons, get?_setAll_notin fun v hv => hex ⟨v, hv⟩, get?_set_self]
      · exact absurd ⟨v₀, h⟩ hex

theorem get?_setAll_isSome {W : List (κ × α)} {d : Dict κ α} {k : κ}
    (h : (∃ v, (k, v) ∈ W) ∨ ∃ v, Dict.get? d k = some v) :
    ∃ v, Dict.get? (setAll d W) k = some v := by
  by_cases hex : ∃ v, (k, v) ∈ W
  · obtain ⟨v₀, hv₀⟩ := hex
    obtain ⟨v, hg, -⟩ := get?_setAll_mem W d hv₀
    exact ⟨v, hg⟩
  · rw [get?_setAll_notin fun v hv => hex ⟨v, hv⟩]
    exact h.resolve_left hex

theorem get?_setAll {W : List (κ × α)} (hf : Functional W) {d : Dict κ α} (k : κ) (v : α) :
    Dict.get? (setAll d W) k = some v ↔
      (k, v) ∈ W ∨ ((∀ v', (k, v') ∉ W) ∧ Dict.get? d k = some v) := by
  by_cases hex : ∃ v', (k, v') ∈ W
  · obtain ⟨v', hv'⟩ := hex
    obtain ⟨v₁, hg, hm⟩ := get?_setAll_mem W d hv'
    rw [hg]
    constructor
    · intro h; cases h; exact Or.inl hm
    · rintro (h | ⟨h, _⟩)
      · rw [hf k v₁ v hm h]
      · exact absurd hv' (h v')
  · have hn : ∀ v', (k, v') ∉ W := fun v' h => hex ⟨v', h⟩
    rw [get?_setAll_notin hn]
    exact ⟨fun h => Or.inr ⟨hn, h⟩, fun h => h.elim (fun h => absurd h (hn v)) (·.2)⟩

theorem get?_setAll_nil {W : List (κ × α)} (hf : Functional W) (k : κ) (v : α) :
    Dict.get? (setAll ([] : Dict κ α) W) k = some v ↔ (k, v) ∈ W := by
  rw [get?_setAll hf]
  simp

theorem forall_get?_setAll {P : κ → α → Prop} {d : Dict κ α} {W : List (κ × α)}
    (hd : ∀ k v, Dict.get? d k = some v → P k v) (hW : ∀ e ∈ W, P e.1 e.2) :
    ∀ k v, Dict.get? (setAll d W) k = some v → P k v := by
  intro k v h
  rcases get?_setAll_sub h with hm | hd'
  · exact hW _ hm
  · exact hd k v hd'

theorem set_of_get?_none {d : Dict κ α} {k : κ} (v : α) (h : Dict.get? d k = none) :
    Dict.set d k v = d ++ [(k, v)] := by
  induction d with
  | nil => rfl
  | cons e d ih =>
    obtain ⟨a, w⟩ := e
    by_cases ha : a = k
    · simp [get?_cons, ha] at h
    · rw [get?_cons, if_neg ha] at h
      simp only [Dict.set, if_neg ha, ih h, List.cons_append]

theorem mem_set {d : Dict κ α} {k : κ} {v : α} {e : κ × α} (h : e ∈ Dict.set d k v) : e = (k, v) ∨ e ∈ d := by
  induction d with
  | nil => exact Or.inl (List.mem_singleton.1 h)
  | cons e' d ih =>
    rw [Dict.set] at h
    split at h
    · exact (List.mem_cons.1 h).imp_right (List.mem_cons_of_mem _)
    · rcases List.mem_cons.1 h with h | h
      · exact Or.inr (h ▸ List.mem_cons_self)
      · exact (ih h).imp_right (List.mem_cons_of_mem _)

theorem mem_setAll {W : List (κ × α)} {d : Dict κ α} {e : κ × α} (h : e ∈ setAll d W) : e ∈ W ∨ e ∈ d := by
  induction W generalizing d with
  | nil => exact Or.inr h
  | cons w W ih =>
    rcases ih h with h | h
    · exact Or.inl (List.mem_cons_of_mem _ h)
    · exact (mem_set h).imp_left fun (e' : e = (w.1, w.2)) => e' ▸ List.mem_cons_self

/-- the keys are spelled `d.map (·.1)`, as the users have them (sublists and renamings of that map),
    not `Dict.keys d` -/
theorem keys_set (d : Dict κ α) (k : κ) (v : α) :
    (Dict.set d k v).map (·.1) = if k ∈ d.map (·.1) then d.map (·.1) else d.map (·.1) ++ [k] := by
  induction d with
  | nil => rfl
  | cons e d ih =>
    by_cases h : e.1 = k
    · simp [Dict.set, h]
    · have h' : ¬ k = e.1 := fun e => h e.symm
      simp only [Dict.set, if_neg h, List.map_cons, List.mem_cons, h', false_or, ih]
      split <;> rfl

theorem keys_set_nodup {d : Dict κ α} (k : κ) (v : α) (h : (d.map (·.1)).Nodup) :
    ((Dict.set d k v).map (·.1)).Nodup := by
  rw [keys_set]
  split
  · exact h
  · next hk =>
    exact List.nodup_append.2 ⟨h, List.nodup_cons.2 ⟨List.not_mem_nil, List.nodup_nil⟩, fun a ha b hb e =>
      hk (by rw [← List.mem_singleton.1 hb, ← e]; exact ha)⟩

omit [DecidableEq κ] in
theorem functional_of_nodup_keys {d : List (κ × α)} (h : (d.map (·.1)).Nodup) : Functional d := by
  induction d with
  | nil => exact fun _ _ _ h => by cases h
  | cons e d ih =>
    obtain ⟨hn, hd⟩ := List.nodup_cons.1 h
    have hk : ∀ {v}, (e.1, v) ∉ d := fun hm => hn (List.mem_map.2 ⟨_, hm, rfl⟩)
    intro k v v' h1 h2
    rcases List.mem_cons.1 h1 with rfl | m1 <;> rcases List.mem_cons.1 h2 with e2 | m2
    · exact (Prod.mk.inj e2).2.symm
    · exact absurd m2 hk
    · subst e2; exact absurd m1 hk
    · exact ih hd k v v' m1 m2

variable {β : Type} (g : α → β)

theorem get?_map (d : Dict κ α) (k : κ) :
    Dict.get? (d.map fun p => (p.1, g p.2)) k = (Dict.get? d k).map g := by
  induction d with
  | nil => rfl
  | cons e d ih =>
    rw [List.map_cons, get?_cons, get?_cons, ih]
    split <;> rfl

theorem set_map (d : Dict κ α) (k : κ) (v : α) :
    Dict.set (d.map fun p => (p.1, g p.2)) k (g v) = (Dict.set d k v).map fun p => (p.1, g p.2) := by
  induction d with
  | nil => rfl
  | cons e d ih =>
    simp only [List.map_cons, Dict.set, ih]
    split <;> rfl

theorem get?_filter (p : κ → Bool) : ∀ (a : Dict κ α) (k : κ),
    Dict.get? (a.filter fun kv => p kv.1) k = if p k then Dict.get? a k else none
  | [], k => by simp [Dict.get?]
  | (k', v') :: rest, k => by
    by_cases hp : p k' = true
    · rw [List.filter_cons_of_pos (by simpa using hp)]
      simp only [Dict.get?]
      by_cases hk : k' = k
      · subst hk; simp [hp]
      · simp only [hk, if_false]; exact get?_filter p rest k
    · rw [List.filter_cons_of_neg (by simpa using hp)]
      simp only [Dict.get?]
      by_cases hk : k' = k
      · subst hk; rw [get?_filter p rest k']; simp [hp]
      · simp only [hk, if_false]; exact get?_filter p rest k

end Depccg.C06
