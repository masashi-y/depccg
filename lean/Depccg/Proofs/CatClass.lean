/-
  Classes of categories given atom by atom and slash by slash (`CatA A S`): `C05.WF`,
  `ProgramProps.ReadWF`, the two feature systems, XML text and "all features from a pool" are such
  classes.  `RuleClosed A S` lists the few things the grammar rules do to an atom (put the feature of
  another atom of the inputs in the place of a variable feature; for English, erase a feature), so
  that a class which admits them is kept by the rules (Proofs/Rules.lean, Proofs/RuleClosure.lean).
-/
import Depccg.Props.C06Defs

namespace Depccg.Closure
open Depccg Cat Str C06

def CatA (A : Str → Feat → Prop) (S : Nat → Prop) : Cat → Prop
  | .atom b f => A b f
  | .fn l s r => CatA A S l ∧ S s ∧ CatA A S r

/-- what the matching rules need of a class `CatA A S`: a variable feature may be replaced by the
    feature of any atom of the class, and both slashes are in `S` -/
structure RuleClosed (A : Str → Feat → Prop) (S : Nat → Prop) : Prop where
  /-- `b'` is whichever atom of the inputs carried `f`: a binding takes its features from the pool
      `feats x ++ feats y`, and of a feature of the pool no more is known than that some atom of the
      class has it (`catA_feats`); the name `b` stays (`catA_instance`) -/
  inst : ∀ b f' b' f, A b f' → f'.isVariable = true → A b' f → A b f
  fwd : S cSlash
  bwd : S cBSlash

/-- the English grammar also erases features (`nb`) and builds `(S\NP)\(S\NP)`, `(S\NP)/(S\NP)`
    (`commaVpToAdv`, `parentheticalDirectSpeech`, through `En.sNP`): `S` and `NP`, without feature,
    are the only atoms a binary rule writes itself; every other atom of a result is an atom of an
    input, up to `inst` and `none` -/
structure EnRuleClosed (A : Str → Feat → Prop) (S : Nat → Prop) : Prop extends RuleClosed A S where
  none : ∀ b f, A b f → A b (.un none)
  sNP : CatA A S En.sNP

variable {A : Str → Feat → Prop} {S : Nat → Prop}

theorem catA_fn {l r : Cat} {s : Nat} (hl : CatA A S l) (hs : S s) (hr : CatA A S r) :
    CatA A S (.fn l s r) :=
  ⟨hl, hs, hr⟩

theorem catA_iff_of_fn {P : Cat → Prop}
    (h : ∀ l s r, P (.fn l s r) ↔ P l ∧ S s ∧ P r) (c : Cat) :
    P c ↔ CatA (fun b f => P (.atom b f)) S c := by
  induction c with
  | atom b f => exact Iff.rfl
  | fn l s r ihl ihr => exact (h l s r).trans (and_congr ihl (and_congr Iff.rfl ihr))

theorem CatA.mono {A' : Str → Feat → Prop} {S' : Nat → Prop} (hA : ∀ b f, A b f → A' b f)
    (hS : ∀ s, S s → S' s) {c : Cat} (h : CatA A S c) : CatA A' S' c := by
  induction c with
  | atom b f => exact hA b f h
  | fn l s r ihl ihr => exact ⟨ihl h.1, hS s h.2.1, ihr h.2.2⟩

theorem CatA.congr {A' : Str → Feat → Prop} {S' : Nat → Prop} (hA : ∀ b f, A b f ↔ A' b f)
    (hS : ∀ s, S s ↔ S' s) {c : Cat} : CatA A S c ↔ CatA A' S' c :=
  ⟨CatA.mono (fun b f => (hA b f).1) fun s => (hS s).1,
    CatA.mono (fun b f => (hA b f).2) fun s => (hS s).2⟩

theorem catA_feats {t : Cat} (ht : CatA A S t) : ∀ f ∈ feats t, ∃ b, A b f := by
  induction t with
  | atom b g =>
    intro f hf
    rw [List.mem_singleton.1 hf]
    exact ⟨b, ht⟩
  | fn l s r ihl ihr =>
    intro f hf
    rcases List.mem_append.1 hf with hf | hf
    · exact ihl ht.1 f hf
    · exact ihr ht.2.2 f hf

theorem feats_iff_catA (F : Feat → Prop) (c : Cat) :
    (∀ f ∈ feats c, F f) ↔ CatA (fun _ f => F f) (fun _ => True) c := by
  induction c with
  | atom b f => exact List.forall_mem_singleton
  | fn l s r ihl ihr => simp only [feats, List.forall_mem_append, ihl, ihr, CatA, true_and]

/-- `hn` is the field `EnRuleClosed.none`, asked for alone so that a class with no more than this
    (`ProgramProps.ReadWF`) is served too -/
theorem catA_clear (hn : ∀ b f, A b f → A b (.un none)) (args : List Str) {c c' : Cat}
    (h : CatA A S c) (hc : Cat.clear args c = .ok c') : CatA A S c' := by
  induction c generalizing c' with
  | atom b f =>
    simp only [Cat.clear] at hc
    split at hc
    · cases hc; exact hn b f h
    · cases hc; exact h
    · cases hc
  | fn l s r ihl ihr =>
    simp only [Cat.clear] at hc
    split at hc
    · cases hc
    · rename_i l' hl
      split at hc
      · cases hc
      · rename_i r' hr
        cases hc
        exact ⟨ihl h.1 hl, h.2.1, ihr h.2.2 hr⟩

theorem catA_matched {p t : Cat} {v : Str} {c : Cat} (h : (v, c) ∈ matched p t) (ht : CatA A S t) :
    CatA A S c := by
  induction p generalizing t with
  | atom w g =>
    rw [(Prod.mk.inj (List.mem_singleton.1 h)).2]
    exact ht
  | fn pl ps pr ihl ihr =>
    cases t with
    | atom b g => cases h
    | fn tl ts tr =>
      rcases List.mem_append.1 h with h | h
      · exact ihl h ht.1
      · exact ihr h ht.2.2

theorem catA_instance (hA : RuleClosed A S)
    {pool : List Feat} (hp : ∀ f ∈ pool, ∃ b, A b f) {b c : Cat} (h : InstanceOf pool b c)
    (hc : CatA A S c) : CatA A S b := by
  induction b generalizing c with
  | atom n f =>
    cases c with
    | atom n' f' =>
      obtain ⟨rfl, h2⟩ := h
      rcases h2 with rfl | ⟨hv, hf⟩
      · exact hc
      · obtain ⟨b', hb'⟩ := hp f hf
        exact hA.inst _ _ _ _ hc hv hb'
    | fn l' s' r' => exact h.elim
  | fn l s r ihl ihr =>
    cases c with
    | atom n' f' => exact h.elim
    | fn l' s' r' =>
      obtain ⟨h1, rfl, h3⟩ := h
      exact ⟨ihl h1 hc.1, hc.2.1, ihr h3 hc.2.2⟩

/-! ### what `Cat.str` prints

  "Every character of the printed text is a `P`" is the class `StrIn P` as soon as the two
  parentheses are `P`s: what is asked is the atom texts (name, and `[ ]` around a feature text that
  is not empty) and the slashes. -/

abbrev StrIn (P : Nat → Prop) : Cat → Prop := CatA (fun b f => ∀ ch ∈ (Cat.atom b f).str, P ch) P

section Printed
variable {P : Nat → Prop}

theorem forall_mem_str_atom {b : Str} {f : Feat} :
    (∀ ch ∈ (Cat.atom b f).str, P ch) ↔
      (∀ ch ∈ b, P ch) ∧ (f.str ≠ [] → P cLBr ∧ (∀ ch ∈ f.str, P ch) ∧ P cRBr) := by
  show (∀ ch ∈ (if f.str.length == 0 then b else b ++ cLBr :: f.str ++ [cRBr]), P ch) ↔ _
  by_cases h : f.str = []
  · simp [h]
  · rw [if_neg (by simpa using h), List.append_assoc, List.forall_mem_append, List.cons_append,
      List.forall_mem_cons, List.forall_mem_append, List.forall_mem_singleton]
    exact and_congr_right fun _ => ⟨fun hf _ => hf, fun hf => hf h⟩

variable (hpar : P cLPar ∧ P cRPar)
include hpar

/-- an operand of a functor, as `Cat.str` prints it -/
theorem forall_mem_wrap {b : Bool} {t : Str} :
    (∀ ch ∈ (if b then cLPar :: t ++ [cRPar] else t), P ch) ↔ ∀ ch ∈ t, P ch := by
  split
  · rw [List.cons_append, List.forall_mem_cons, List.forall_mem_append, List.forall_mem_singleton]
    exact ⟨fun h => h.2.1, fun h => ⟨hpar.1, h, hpar.2⟩⟩
  · exact Iff.rfl

theorem forall_mem_str (c : Cat) : (∀ ch ∈ c.str, P ch) ↔ StrIn P c := by
  induction c with
  | atom b f => exact Iff.rfl
  | fn l s r ihl ihr =>
    show (∀ ch ∈ _ ++ s :: _, P ch) ↔ _
    rw [List.forall_mem_append, List.forall_mem_cons, forall_mem_wrap hpar, forall_mem_wrap hpar,
      ihl, ihr]
    exact Iff.rfl

end Printed

end Depccg.Closure
