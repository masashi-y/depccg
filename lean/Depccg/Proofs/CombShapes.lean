/-
  The two shapes of a combinator.  `via`: match the inputs against a pair of patterns, test a guard
  on the bindings, and return one input unchanged (the other being a modifier `X|X`) or a category
  built from the bindings.  `cond`: test the inputs and return a category written without matching:
  an input, `y\y`, or a constant.  Each English combinator that is not of its shape by definition is
  rewritten into it here (`ba_eq` …); `Ja.viaUnify` is, by definition, `via` without a guard and with
  the head on the right; `Ja.conjoin` is left as it is (`C04.conjoin_inv`).
-/
import Depccg.Props.C03Defs
import Depccg.Props.C13

namespace Depccg.C03
open Depccg Cat Str Unify Pat

section gets
variable {σ : Bindings} {g : Str → Cat} {vs : List Str} (ks : ∀ v ∈ vs, σ.get v = .ok (g v))
include ks

theorem get2_eq (k1 k2 : Nat) {f : Cat → Cat → Except Err Cat} (h1 : [k1] ∈ vs := by decide)
    (h2 : [k2] ∈ vs := by decide) : Ja.get2 σ k1 k2 f = f (g [k1]) (g [k2]) := by
  simp only [Ja.get2, ks _ h1, ks _ h2]

theorem get3_eq (k1 k2 k3 : Nat) {f : Cat → Cat → Cat → Except Err Cat} (h1 : [k1] ∈ vs := by decide)
    (h2 : [k2] ∈ vs := by decide) (h3 : [k3] ∈ vs := by decide) :
    Ja.get3 σ k1 k2 k3 f = f (g [k1]) (g [k2]) (g [k3]) := by
  simp only [Ja.get3, Ja.get2, ks _ h1, ks _ h2, ks _ h3]

end gets

theorem mk_inv {c : Cat} {os sym : String} {r : RuleRes} (h : En.mk c os sym = .ok (some r)) :
    r = lab os sym c := by
  cases h
  rfl

/-- `hl` is the head direction: `true` in English, `false` in Japanese (`Ja.viaUnify`, which has no
    guard). -/
def via (hl : Bool) (px py x y : Cat) (guard : Bindings → Except Err Bool) (mo keep : Cat)
    (os sym : String) (build : Bindings → Except Err Cat) : Except Err (Option RuleRes) :=
  match unify px py x y with
  | .error e => .error e
  | .ok none => .ok none
  | .ok (some σ) =>
    match guard σ with
    | .error e => .error e
    | .ok true => .ok none
    | .ok false =>
      if isModifier mo then .ok (some ⟨keep, lit os, lit sym, hl⟩) else
      match build σ with
      | .ok c => .ok (some ⟨c, lit os, lit sym, hl⟩)
      | .error e => .error e

theorem isModifier_fn {l r : Cat} {s : Nat} : isModifier (.fn l s r) = true ↔ l = r :=
  C13.pyEq_iff l r

theorem isModifier_fn_false {l r : Cat} {s : Nat} (h : isModifier (.fn l s r) = false) : l ≠ r :=
  fun e => Bool.false_ne_true (h.symm.trans (isModifier_fn.2 e))

def noGuard : Bindings → Except Err Bool := fun _ => .ok false

/-- backward crossed composition does not compose over `N` or `NP` -/
def nGuard (σ : Bindings) : Except Err Bool :=
  match σ.get [98] with
  | .error e => .error e
  | .ok b => .ok (En.isNorNP b)

theorem nGuard_eq {σ : Bindings} {b : Cat} (h : σ.get [98] = .ok b) : nGuard σ = .ok (En.isNorNP b) := by
  simp only [nGuard, h]

def cond (test : Except Err Bool) (c : Cat) (os sym : String) : Except Err (Option RuleRes) :=
  match test with
  | .error e => .error e
  | .ok true => En.mk c os sym
  | .ok false => .ok none

theorem cond_inv {e : Except Err (Option RuleRes)} {test : Except Err Bool} {c : Cat}
    {os sym : String} {r : RuleRes} (he : e = cond test c os sym) (h : e = .ok (some r)) :
    test = .ok true ∧ r = lab os sym c := by
  subst he
  unfold cond at h
  split at h
  · cases h
  · exact ⟨rfl, mk_inv h⟩
  · cases h

theorem cond_ite (b : Bool) (c : Cat) (os sym : String) :
    (if b then En.mk c os sym else .ok none) = cond (.ok b) c os sym := by
  cases b <;> rfl

theorem ba_eq (x y : Cat) : En.backwardApplication x y =
    if Cat.pyEqStr x (lit "S[dcl]") && Cat.pyEqStr y (lit "S[em]\\S[em]") then En.mk x "ba" "<" else
    via true b (bwd a b) x y noGuard y x "ba" "<" fun σ => σ.get [97] := rfl

theorem fc_eq (x y : Cat) : En.forwardComposition x y =
    via true (fwd a b) (fwd b c) x y noGuard x y "fc" ">B" fun σ =>
      Ja.get2 σ 97 99 fun a c => .ok (.fn a cSlash c) := by
  unfold En.forwardComposition via noGuard Ja.get2
  rcases unify (fwd a b) (fwd b c) x y with e | _ | σ <;> try rfl
  dsimp only
  cases isModifier x <;> try rfl
  rcases σ.get [97] with e | a' <;> try rfl
  rcases σ.get [99] with e | c' <;> rfl

theorem bx_eq (x y : Cat) : En.backwardComposition x y =
    via true (fwd b c) (bwd a b) x y nGuard y x "bx" "<B" fun σ =>
      Ja.get2 σ 97 99 fun a c => .ok (.fn a cSlash c) := by
  unfold En.backwardComposition via nGuard Ja.get2
  rcases unify (fwd b c) (bwd a b) x y with e | _ | σ <;> try rfl
  dsimp only
  rcases σ.get [98] with e | b' <;> try rfl
  dsimp only
  cases En.isNorNP b' <;> try rfl
  cases isModifier y <;> try rfl
  rcases σ.get [97] with e | a' <;> try rfl
  rcases σ.get [99] with e | c' <;> rfl

theorem gfc_eq (x y : Cat) : En.generalizedForwardComposition x y =
    via true (fwd a b) (any (fwd b c) d) x y noGuard x y "gfc" ">B" fun σ =>
      Ja.get3 σ 97 99 100 fun a c d => En.functorOf y (.fn a cSlash c) d := by
  unfold En.generalizedForwardComposition via noGuard Ja.get3 Ja.get2
  rcases unify (fwd a b) (any (fwd b c) d) x y with e | _ | σ <;> try rfl
  dsimp only
  cases isModifier x <;> try rfl
  rcases σ.get [97] with e | a' <;> try rfl
  rcases σ.get [99] with e | c' <;> try rfl
  rcases σ.get [100] with e | d' <;> rfl

theorem gbx_eq (x y : Cat) : En.generalizedBackwardComposition x y =
    via true (any (fwd b c) d) (fwd a b) x y nGuard y x "gbx" "<B" fun σ =>
      Ja.get3 σ 97 99 100 fun a c d => En.functorOf x (.fn a cSlash c) d := by
  unfold En.generalizedBackwardComposition via nGuard Ja.get3 Ja.get2
  rcases unify (any (fwd b c) d) (fwd a b) x y with e | _ | σ <;> try rfl
  dsimp only
  rcases σ.get [98] with e | b' <;> try rfl
  dsimp only
  cases En.isNorNP b' <;> try rfl
  cases isModifier y <;> try rfl
  rcases σ.get [97] with e | a' <;> try rfl
  rcases σ.get [99] with e | c' <;> try rfl
  rcases σ.get [100] with e | d' <;> rfl

theorem conj_eq (x y : Cat) : En.conjunction x y =
    cond ((En.isPunct y).map fun p =>
        !p && !En.isTypeRaised y && En.catInStrs x [lit ",", lit ";", lit "conj"])
      (.fn y cBSlash y) "conj" "<Φ>" := by
  unfold En.conjunction
  cases En.isPunct y with
  | error e => rfl
  | ok p => exact cond_ite ..

theorem conj2_eq (x y : Cat) : En.conjunction2 x y =
    cond (.ok (Cat.pyEqStr x (lit "conj") && Cat.pyEqStr y (lit "NP\\NP"))) y "conj" "<Φ>" :=
  cond_ite ..

theorem rp1_eq (x y : Cat) : En.removePunctuation1 x y = cond (En.isPunct x) y "lp" "<lp>" := rfl

theorem rp2_eq (x y : Cat) : En.removePunctuation2 x y = cond (En.isPunct y) x "rp" "<rp>" := rfl

theorem rpl_eq (x y : Cat) : En.removePunctuationLeft x y =
    cond (.ok (En.catInStrs x [lit "LQU", lit "LRB"])) (.fn y cBSlash y) "lp" "<lp>" :=
  cond_ite ..

theorem comma_eq (x y : Cat) : En.commaVpToAdv x y =
    cond (.ok (Cat.pyEqStr x (lit ",") && En.catInStrs y [lit "S[ng]\\NP", lit "S[pss]\\NP"]))
      (.fn En.sNP cBSlash En.sNP) "lp" "<*>" :=
  cond_ite ..

theorem pds_eq (x y : Cat) : En.parentheticalDirectSpeech x y =
    cond (.ok (Cat.pyEqStr x (lit ",") && Cat.pyEqStr y (lit "S[dcl]/S[dcl]")))
      (.fn En.sNP cSlash En.sNP) "lp" "<*>" :=
  cond_ite ..

end Depccg.C03
