/-
  The five keys of the tokens the program builds are XML names: the hypothesis on token keys of
  `Props/MainReadsBack.lean` holds of them.
-/
import Depccg.Props.MainReadsBackDefs
import Depccg.Proofs.Lit

namespace Depccg.CliProps
open Depccg Str Search GlueRun Lazy Print Cli LazyProps Xml Read

theorem mrb_keys5 :
    ∀ k ∈ [lit "word", lit "lemma", lit "pos", lit "entity", lit "chunk"], C15Text.NameOK k := by
  unfold C15Text.NameOK
  decide_lit

theorem mrb_tok5 (w l p e c : Str) :
    C15Text.TokKeysOK [(lit "word", w), (lit "lemma", l), (lit "pos", p), (lit "entity", e), (lit "chunk", c)] :=
  fun kv hkv => mrb_keys5 kv.1 (List.mem_map_of_mem (f := Prod.fst) hkv)

end Depccg.CliProps
