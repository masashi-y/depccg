/-
  The callback side of `run` (`Depccg.GlueRun`): the category table only grows and ids keep their
  meaning (`addGet`, `addAll`, `addRoots`), a row written by a callback is the rule function's
  result list under the table's numbering (`RowOK`), a row that is read under a key is read the
  same after any later callbacks (`Grows`: from every state, no invariant assumed), and every call preserves "duplicate-free table, every row that is read
  belongs to ids of the table and is `RowOK`" (`CacheOK`). A row is read with `find?`, so `CacheOK`
  (and `Inv'`) speak of the first row stored under a key only; that the lists hold one row per key
  is proved nowhere.
-/
import Depccg.GlueRun
import Depccg.Props.GlueRunDefs

namespace Depccg.GlueRunProps
open Depccg GlueTree GlueRun

theorem gr_prefix_get_lt {α : Type} {l l' : List α} (h : l <+: l') {i : Nat} (hi : i < l.length) :
    l'[i]? = l[i]? :=
  (List.prefix_iff_getElem?.1 h i hi).trans (List.getElem?_eq_getElem hi).symm

theorem gr_prefix_get {α : Type} {l l' : List α} (h : l <+: l') {i : Nat} {c : α}
    (hi : l[i]? = some c) : l'[i]? = some c :=
  (gr_prefix_get_lt h (List.getElem?_eq_some_iff.1 hi).1).trans hi

theorem gr_prefix_isSome {α : Type} {l l' : List α} (h : l <+: l') {i : Nat}
    (hi : (l[i]?).isSome) : l'[i]? = l[i]? :=
  gr_prefix_get_lt h ((isSome_getElem? l i).mp hi)

theorem nodup_getElem?_inj {α : Type} {l : List α} (hnd : l.Nodup) {i j : Nat} {c : α}
    (hi : l[i]? = some c) (hj : l[j]? = some c) : i = j :=
  (List.getElem?_inj (List.getElem?_eq_some_iff.1 hi).1 hnd).1 (hi.trans hj.symm)

theorem gr_addGet_prefix (l : List Cat) (c : Cat) : l <+: (addGet l c).1 := by
  unfold addGet
  split
  · exact List.prefix_refl l
  · exact List.prefix_append l [c]

theorem gr_addGet_mem {l : List Cat} {c d : Cat} (h : d ∈ (addGet l c).1) : d ∈ l ∨ d = c := by
  unfold addGet at h
  split at h
  · exact Or.inl h
  · simp only [List.mem_append, List.mem_singleton] at h
    exact h

theorem gr_addGet_nodup (l : List Cat) (c : Cat) (h : l.Nodup) : (addGet l c).1.Nodup := by
  unfold addGet
  split
  · exact h
  · rename_i hc
    refine List.nodup_append.2 ⟨h, List.pairwise_singleton _ c, fun a ha b hb hab => hc ?_⟩
    rw [← List.mem_singleton.1 hb, ← hab]
    exact ha

theorem gr_get_idxOf {l : List Cat} {c : Cat} (h : c ∈ l) : l[l.idxOf c]? = some c := by
  have hlt : l.idxOf c < l.length := List.idxOf_lt_length_iff.mpr h
  exact (List.getElem?_eq_getElem hlt).trans (congrArg some (List.getElem_idxOf hlt))

/-- a position in a table is the position in every duplicate-free list that extends it -/
theorem idxOf_of_get {l U : List Cat} (hU : U.Nodup) (hp : l <+: U) {i : Nat} {c : Cat}
    (h : l[i]? = some c) : U.idxOf c = i := by
  obtain ⟨hi, rfl⟩ := List.getElem?_eq_some_iff.1 (gr_prefix_get hp h)
  exact hU.idxOf_getElem i hi

theorem gr_addGet_get (l : List Cat) (c : Cat) : (addGet l c).1[(addGet l c).2]? = some c := by
  unfold addGet
  split
  · exact gr_get_idxOf ‹_›
  · exact List.getElem?_concat_length

theorem gr_addAll_cons (l : List Cat) (r : RuleRes) (rs : List RuleRes) :
    addAll l (r :: rs) =
      ((addAll (addGet l r.cat).1 rs).1,
        ⟨(addGet l r.cat).2, r.headLeft, r.opString, r.opSymbol⟩ :: (addAll (addGet l r.cat).1 rs).2) := rfl

theorem gr_addAll_prefix (rs : List RuleRes) : ∀ l : List Cat, l <+: (addAll l rs).1 := by
  induction rs with
  | nil => intro l; exact List.prefix_refl l
  | cons r rs ih =>
    intro l
    rw [gr_addAll_cons]
    exact List.IsPrefix.trans (gr_addGet_prefix l r.cat) (ih _)

theorem gr_addAll_nodup (rs : List RuleRes) : ∀ l : List Cat, l.Nodup → (addAll l rs).1.Nodup := by
  induction rs with
  | nil => intro l h; exact h
  | cons r rs ih =>
    intro l h
    rw [gr_addAll_cons]
    exact ih _ (gr_addGet_nodup l r.cat h)

/-- `row` is the result list `rs`, entry by entry: the entry's id is the id the table `cats` gives
    the result's category, the labels are the result's, and so is the head flag when `heads` is set
    (the end-to-end assumptions speak of the head flags of binary rows only) -/
structure RowOK (heads : Bool) (cats : List Cat) (rs : List RuleRes) (row : List CacheEntry) : Prop where
  length : row.length = rs.length
  entry : ∀ {i : Nat} {r : RuleRes} {e : CacheEntry}, rs[i]? = some r → row[i]? = some e →
    cats[e.catId]? = some r.cat ∧ (heads = true → e.headLeft = r.headLeft) ∧
      e.opString = r.opString ∧ e.opSymbol = r.opSymbol

section RowOK
variable {heads : Bool} {cats cats' : List Cat} {rs : List RuleRes} {row : List CacheEntry}

theorem RowOK.mono (h : RowOK heads cats rs row) (hp : cats <+: cats') : RowOK heads cats' rs row :=
  ⟨h.length, fun hr he => ⟨gr_prefix_get hp (h.entry hr he).1, (h.entry hr he).2⟩⟩

theorem RowOK.no_heads (h : RowOK heads cats rs row) : RowOK false cats rs row :=
  ⟨h.length, fun hr he => ⟨(h.entry hr he).1, nofun, (h.entry hr he).2.2⟩⟩

theorem RowOK.of_res (h : RowOK heads cats rs row) {i : Nat} {r : RuleRes} (hr : rs[i]? = some r) :
    ∃ e, row[i]? = some e ∧ cats[e.catId]? = some r.cat ∧ (heads = true → e.headLeft = r.headLeft) ∧
      e.opString = r.opString ∧ e.opSymbol = r.opSymbol := by
  have hi : i < row.length := h.length ▸ (List.getElem?_eq_some_iff.1 hr).1
  exact ⟨row[i], List.getElem?_eq_getElem hi, h.entry hr (List.getElem?_eq_getElem hi)⟩

theorem RowOK.of_entry (h : RowOK heads cats rs row) {i : Nat} {e : CacheEntry} (he : row[i]? = some e) :
    ∃ r, rs[i]? = some r ∧ cats[e.catId]? = some r.cat ∧ (heads = true → e.headLeft = r.headLeft) ∧
      e.opString = r.opString ∧ e.opSymbol = r.opSymbol := by
  have hi : i < rs.length := h.length ▸ (List.getElem?_eq_some_iff.1 he).1
  exact ⟨rs[i], List.getElem?_eq_getElem hi, h.entry (List.getElem?_eq_getElem hi) he⟩

theorem RowOK.catId_lt (h : RowOK heads cats rs row) {e : CacheEntry} (he : e ∈ row) :
    e.catId < cats.length := by
  obtain ⟨i, hi⟩ := List.getElem?_of_mem he
  obtain ⟨r, -, hc, -⟩ := h.of_entry hi
  exact (List.getElem?_eq_some_iff.1 hc).1

end RowOK

theorem gr_addAll_rowOK (rs : List RuleRes) :
    ∀ l : List Cat, RowOK true (addAll l rs).1 rs (addAll l rs).2 := by
  induction rs with
  | nil => exact fun l => ⟨rfl, fun hr _ => by cases hr⟩
  | cons r0 rs ih =>
    intro l
    rw [gr_addAll_cons]
    refine ⟨congrArg (· + 1) (ih _).length, fun {i r e} hr he => ?_⟩
    cases i with
    | zero =>
      cases hr
      cases he
      exact ⟨gr_prefix_get (gr_addAll_prefix rs _) (gr_addGet_get l r0.cat), fun _ => rfl, rfl, rfl⟩
    | succ k => exact (ih _).entry hr he

/-! ### `addRoots` numbers the roots the way `addAll` numbers result categories -/

theorem gr_addRoots_cons (l : List Cat) (r : Cat) (rs : List Cat) :
    addRoots l (r :: rs) =
      ((addRoots (addGet l r).1 rs).1, (addGet l r).2 :: (addRoots (addGet l r).1 rs).2) := rfl

theorem gr_addRoots_eq_addAll (rs : List Cat) : ∀ l : List Cat,
    addRoots l rs = ((addAll l (rs.map (⟨·, [], [], true⟩))).1,
      (addAll l (rs.map (⟨·, [], [], true⟩))).2.map (·.catId)) := by
  induction rs with
  | nil => intro l; rfl
  | cons r rs ih =>
    intro l
    rw [gr_addRoots_cons, ih]
    rfl

theorem gr_addRoots_prefix (rs : List Cat) (l : List Cat) : l <+: (addRoots l rs).1 := by
  rw [gr_addRoots_eq_addAll]
  exact gr_addAll_prefix _ l

theorem gr_addRoots_nodup (rs : List Cat) {l : List Cat} (h : l.Nodup) : (addRoots l rs).1.Nodup := by
  rw [gr_addRoots_eq_addAll]
  exact gr_addAll_nodup _ l h

/-- the table after `addRoots` holds what it held and the roots: `addRoots` also serves, in the
    proofs, to extend a table by the categories of another list that it lacks -/
theorem gr_addRoots_mem (rs : List Cat) : ∀ (l : List Cat) (c : Cat),
    c ∈ (addRoots l rs).1 ↔ c ∈ l ∨ c ∈ rs := by
  induction rs with
  | nil => intro l c; exact ⟨Or.inl, fun h => h.elim id nofun⟩
  | cons r rs ih =>
    intro l c
    rw [gr_addRoots_cons, ih, List.mem_cons, ← or_assoc]
    refine or_congr_left ⟨gr_addGet_mem, fun h => ?_⟩
    rcases h with h | rfl
    · exact (gr_addGet_prefix l r).subset h
    · exact List.mem_of_getElem? (gr_addGet_get l c)

theorem gr_addRoots_length (rs : List Cat) (l : List Cat) : (addRoots l rs).2.length = rs.length := by
  rw [gr_addRoots_eq_addAll, List.length_map, (gr_addAll_rowOK _ l).length, List.length_map]

theorem gr_addRoots_ids (rs : List Cat) (l : List Cat) (i : Nat) (r : Cat) (h : rs[i]? = some r) :
    ∃ k : Nat, (addRoots l rs).2[i]? = some k ∧ (addRoots l rs).1[k]? = some r := by
  rw [gr_addRoots_eq_addAll]
  obtain ⟨e, he, hc, -⟩ := (gr_addAll_rowOK _ l).of_res
    (show (rs.map (⟨·, [], [], true⟩ : Cat → RuleRes))[i]? = some ⟨r, [], [], true⟩ by
      rw [List.getElem?_map, h]; rfl)
  exact ⟨e.catId, by rw [List.getElem?_map, he]; rfl, hc⟩

theorem gr_addRoots_lt (rs l : List Cat) {k : Nat} (hk : k ∈ (addRoots l rs).2) :
    k < (addRoots l rs).1.length := by
  rw [gr_addRoots_eq_addAll] at hk ⊢
  obtain ⟨e, he, rfl⟩ := List.mem_map.1 hk
  exact (gr_addAll_rowOK _ l).catId_lt he

theorem gr_binRow_cons (cats : List Cat) (bin : List ((Nat × Nat) × List CacheEntry))
    (un : List (Nat × List CacheEntry)) (x y : Nat) (es : List CacheEntry) (a b : Nat) :
    binRow ⟨cats, ((x, y), es) :: bin, un⟩ a b =
      if x = a ∧ y = b then some es else binRow ⟨cats, bin, un⟩ a b := by
  by_cases h : x = a ∧ y = b <;> simp [binRow, h]

theorem gr_unRow_cons (cats : List Cat) (bin : List ((Nat × Nat) × List CacheEntry))
    (un : List (Nat × List CacheEntry)) (x : Nat) (es : List CacheEntry) (a : Nat) :
    unRow ⟨cats, bin, (x, es) :: un⟩ a =
      if x = a then some es else unRow ⟨cats, bin, un⟩ a := by
  by_cases h : x = a <;> simp [unRow, h]

theorem gr_tables_bin {st : GSt} {x y : Nat} {row : List CacheEntry} (h : binRow st x y = some row) :
    (tablesOf st).bin x y = row :=
  congrArg (Option.getD · []) h

theorem gr_tables_un {st : GSt} {x : Nat} {row : List CacheEntry} (h : unRow st x = some row) :
    (tablesOf st).un x = row :=
  congrArg (Option.getD · []) h

/-- `tablesOf` and `Lazy.view` read a row with `getD []`: a row read as non-empty is stored -/
theorem gr_row_of_ne_nil {α : Type} {o : Option (List α)} (h : o.getD [] ≠ []) :
    o = some (o.getD []) := by
  cases o with
  | none => exact absurd rfl h
  | some l => rfl

theorem gr_row_of_mem {α : Type} {o : Option (List α)} {e : α} (h : e ∈ o.getD []) :
    o = some (o.getD []) :=
  gr_row_of_ne_nil (List.ne_nil_of_mem h)

theorem gr_binCall_some (G : GlueRun.CatGrammar) (st : GSt) (x y : Nat) (row : List CacheEntry)
    (h : binRow st x y = some row) : binCall G st x y = st := by
  unfold binCall
  rw [h]

theorem gr_binCall_fresh (G : GlueRun.CatGrammar) (st : GSt) (x y : Nat) (cx cy : Cat)
    (h : binRow st x y = none) (hx : st.cats[x]? = some cx) (hy : st.cats[y]? = some cy) :
    binCall G st x y =
      ⟨(addAll st.cats (G.bin cx cy)).1, ((x, y), (addAll st.cats (G.bin cx cy)).2) :: st.bin, st.un⟩ := by
  unfold binCall
  rw [h, hx, hy]

theorem gr_unCall_some (G : GlueRun.CatGrammar) (st : GSt) (x : Nat) (row : List CacheEntry)
    (h : unRow st x = some row) : unCall G st x = st := by
  unfold unCall
  rw [h]

theorem gr_unCall_fresh (G : GlueRun.CatGrammar) (st : GSt) (x : Nat) (cx : Cat)
    (h : unRow st x = none) (hx : st.cats[x]? = some cx) :
    unCall G st x =
      ⟨(addAll st.cats (G.un cx)).1, st.bin, (x, (addAll st.cats (G.un cx)).2) :: st.un⟩ := by
  unfold unCall
  rw [h, hx]

theorem gr_binCall_cases (G : GlueRun.CatGrammar) (st : GSt) (x y : Nat) :
    binCall G st x y = st ∨
    ∃ cx cy, binRow st x y = none ∧ st.cats[x]? = some cx ∧ st.cats[y]? = some cy ∧
      binCall G st x y =
        ⟨(addAll st.cats (G.bin cx cy)).1, ((x, y), (addAll st.cats (G.bin cx cy)).2) :: st.bin, st.un⟩ := by
  unfold binCall
  split
  · exact .inl rfl
  · rename_i hrow
    split
    · rename_i cx cy hx hy
      exact .inr ⟨cx, cy, hrow, hx, hy, rfl⟩
    · exact .inl rfl

theorem gr_unCall_cases (G : GlueRun.CatGrammar) (st : GSt) (x : Nat) :
    unCall G st x = st ∨
    ∃ cx, unRow st x = none ∧ st.cats[x]? = some cx ∧
      unCall G st x = ⟨(addAll st.cats (G.un cx)).1, st.bin, (x, (addAll st.cats (G.un cx)).2) :: st.un⟩ := by
  unfold unCall
  split
  · exact .inl rfl
  · rename_i hrow
    split
    · rename_i cx hx
      exact .inr ⟨cx, hrow, hx, rfl⟩
    · exact .inl rfl

/-- a call for an id the table does not have changes nothing (IndexError in the callback) -/
theorem gr_binCall_unknown (G : GlueRun.CatGrammar) (st : GSt) (x y : Nat)
    (h : st.cats[x]? = none ∨ st.cats[y]? = none) : binCall G st x y = st := by
  rcases gr_binCall_cases G st x y with he | ⟨cx, cy, -, hx, hy, -⟩
  · exact he
  · rcases h with h | h
    · rw [hx] at h; cases h
    · rw [hy] at h; cases h

theorem gr_unCall_unknown (G : GlueRun.CatGrammar) (st : GSt) (x : Nat)
    (h : st.cats[x]? = none) : unCall G st x = st := by
  rcases gr_unCall_cases G st x with he | ⟨cx, -, hx, -⟩
  · exact he
  · rw [hx] at h; cases h

def Grows (a b : GSt) : Prop :=
  a.cats <+: b.cats ∧
  (∀ x y row, binRow a x y = some row → binRow b x y = some row) ∧
  (∀ x row, unRow a x = some row → unRow b x = some row)

theorem Grows.refl (a : GSt) : Grows a a :=
  ⟨List.prefix_refl _, fun _ _ _ h => h, fun _ _ h => h⟩

theorem Grows.trans {a b c : GSt} (h1 : Grows a b) (h2 : Grows b c) : Grows a c :=
  ⟨List.IsPrefix.trans h1.1 h2.1, fun x y row h => h2.2.1 x y row (h1.2.1 x y row h),
    fun x row h => h2.2.2 x row (h1.2.2 x row h)⟩

theorem Grows.length_le {a b : GSt} (h : Grows a b) : a.cats.length ≤ b.cats.length :=
  h.1.length_le

theorem gr_binCall_grows (G : GlueRun.CatGrammar) (st : GSt) (x y : Nat) :
    Grows st (binCall G st x y) := by
  rcases gr_binCall_cases G st x y with he | ⟨cx, cy, hrow, -, -, he⟩
  · rw [he]
    exact Grows.refl st
  · rw [he]
    refine ⟨gr_addAll_prefix _ _, fun a b row hr => ?_, fun a row hr => hr⟩
    rw [gr_binRow_cons, if_neg]
    · exact hr
    · rintro ⟨rfl, rfl⟩
      rw [hrow] at hr
      cases hr

theorem gr_unCall_grows (G : GlueRun.CatGrammar) (st : GSt) (x : Nat) :
    Grows st (unCall G st x) := by
  rcases gr_unCall_cases G st x with he | ⟨cx, hrow, -, he⟩
  · rw [he]
    exact Grows.refl st
  · rw [he]
    refine ⟨gr_addAll_prefix _ _, fun a b row hr => hr, fun a row hr => ?_⟩
    rw [gr_unRow_cons, if_neg]
    · exact hr
    · rintro rfl
      rw [hrow] at hr
      cases hr

theorem gr_step_grows (G : GlueRun.CatGrammar) (st : GSt) (c : Call) : Grows st (GlueRun.step G st c) := by
  cases c with
  | bin x y => exact gr_binCall_grows G st x y
  | un x => exact gr_unCall_grows G st x

theorem gr_foldl_grows (G : GlueRun.CatGrammar) (calls : List Call) :
    ∀ st : GSt, Grows st (calls.foldl (GlueRun.step G) st) := by
  induction calls with
  | nil => intro st; exact Grows.refl st
  | cons c cs ih =>
    intro st
    exact Grows.trans (gr_step_grows G st c) (ih _)

theorem gr_binCall_has (G : GlueRun.CatGrammar) (st : GSt) (x y : Nat) (hx : x < st.cats.length)
    (hy : y < st.cats.length) : ∃ row, binRow (binCall G st x y) x y = some row := by
  cases hrow : binRow st x y with
  | some row =>
    rw [gr_binCall_some G _ x y row hrow]
    exact ⟨row, hrow⟩
  | none =>
    rw [gr_binCall_fresh G _ x y _ _ hrow (List.getElem?_eq_getElem hx) (List.getElem?_eq_getElem hy),
      gr_binRow_cons, if_pos ⟨rfl, rfl⟩]
    exact ⟨_, rfl⟩

theorem gr_unCall_has (G : GlueRun.CatGrammar) (st : GSt) (x : Nat) (hx : x < st.cats.length) :
    ∃ row, unRow (unCall G st x) x = some row := by
  cases hrow : unRow st x with
  | some row =>
    rw [gr_unCall_some G _ x row hrow]
    exact ⟨row, hrow⟩
  | none =>
    rw [gr_unCall_fresh G _ x _ hrow (List.getElem?_eq_getElem hx), gr_unRow_cons, if_pos rfl]
    exact ⟨_, rfl⟩

/-- the working form of the glue invariant `Inv'` (`inv'_iff_cacheOK` in `Props/GlueRun.lean`):
    statements carry `Inv'`, lemmas that look inside a stored row carry `CacheOK` -/
structure CacheOK (G : GlueRun.CatGrammar) (st : GSt) : Prop where
  nodup : st.cats.Nodup
  bin : ∀ {x y row}, binRow st x y = some row →
    ∃ cx cy, st.cats[x]? = some cx ∧ st.cats[y]? = some cy ∧ RowOK true st.cats (G.bin cx cy) row
  un : ∀ {x row}, unRow st x = some row →
    ∃ cx, st.cats[x]? = some cx ∧ RowOK false st.cats (G.un cx) row

theorem CacheOK.bin_row {G : GlueRun.CatGrammar} {st : GSt} (h : CacheOK G st) {x y : Nat} {cx cy : Cat}
    {row : List CacheEntry} (hx : st.cats[x]? = some cx) (hy : st.cats[y]? = some cy)
    (hrow : binRow st x y = some row) : RowOK true st.cats (G.bin cx cy) row := by
  obtain ⟨cx', cy', hx', hy', hok⟩ := h.bin hrow
  cases hx.symm.trans hx'
  cases hy.symm.trans hy'
  exact hok

theorem CacheOK.un_row {G : GlueRun.CatGrammar} {st : GSt} (h : CacheOK G st) {x : Nat} {cx : Cat}
    {row : List CacheEntry} (hx : st.cats[x]? = some cx) (hrow : unRow st x = some row) :
    RowOK false st.cats (G.un cx) row := by
  obtain ⟨cx', hx', hok⟩ := h.un hrow
  cases hx.symm.trans hx'
  exact hok

theorem CacheOK.binCall {G : GlueRun.CatGrammar} {st : GSt} (h : CacheOK G st) (x y : Nat) :
    CacheOK G (binCall G st x y) := by
  rcases gr_binCall_cases G st x y with he | ⟨cx, cy, -, hx, hy, he⟩
  · rw [he]
    exact h
  · rw [he]
    have hp := gr_addAll_prefix (G.bin cx cy) st.cats
    refine ⟨gr_addAll_nodup _ _ h.nodup, fun {a b row} hr => ?_, fun {a row} hr => ?_⟩
    · rw [gr_binRow_cons] at hr
      split at hr
      · rename_i hab
        obtain ⟨rfl, rfl⟩ := hab
        cases hr
        exact ⟨cx, cy, gr_prefix_get hp hx, gr_prefix_get hp hy, gr_addAll_rowOK _ _⟩
      · obtain ⟨ca, cb, ha, hb, hok⟩ := h.bin hr
        exact ⟨ca, cb, gr_prefix_get hp ha, gr_prefix_get hp hb, hok.mono hp⟩
    · obtain ⟨ca, ha, hok⟩ := h.un hr
      exact ⟨ca, gr_prefix_get hp ha, hok.mono hp⟩

theorem CacheOK.unCall {G : GlueRun.CatGrammar} {st : GSt} (h : CacheOK G st) (x : Nat) :
    CacheOK G (unCall G st x) := by
  rcases gr_unCall_cases G st x with he | ⟨cx, -, hx, he⟩
  · rw [he]
    exact h
  · rw [he]
    have hp := gr_addAll_prefix (G.un cx) st.cats
    refine ⟨gr_addAll_nodup _ _ h.nodup, fun {a b row} hr => ?_, fun {a row} hr => ?_⟩
    · obtain ⟨ca, cb, ha, hb, hok⟩ := h.bin hr
      exact ⟨ca, cb, gr_prefix_get hp ha, gr_prefix_get hp hb, hok.mono hp⟩
    · rw [gr_unRow_cons] at hr
      split at hr
      · rename_i hab
        subst hab
        cases hr
        exact ⟨cx, gr_prefix_get hp hx, (gr_addAll_rowOK _ _).no_heads⟩
      · obtain ⟨ca, ha, hok⟩ := h.un hr
        exact ⟨ca, gr_prefix_get hp ha, hok.mono hp⟩

theorem CacheOK.step {G : GlueRun.CatGrammar} {st : GSt} (h : CacheOK G st) (c : Call) :
    CacheOK G (GlueRun.step G st c) := by
  cases c with
  | bin x y => exact h.binCall x y
  | un x => exact h.unCall x

theorem CacheOK.foldl {G : GlueRun.CatGrammar} (calls : List Call) :
    ∀ {st : GSt}, CacheOK G st → CacheOK G (calls.foldl (GlueRun.step G) st) := by
  induction calls with
  | nil => exact fun h => h
  | cons c cs ih => exact fun h => ih (h.step c)

theorem gr_binCall_row {G : GlueRun.CatGrammar} {st : GSt} (h : CacheOK G st) {x y : Nat}
    {cx cy : Cat} (hx : st.cats[x]? = some cx) (hy : st.cats[y]? = some cy) :
    ∃ row, binRow (binCall G st x y) x y = some row ∧
      RowOK true (binCall G st x y).cats (G.bin cx cy) row := by
  obtain ⟨row, hrow⟩ := gr_binCall_has G st x y (List.getElem?_eq_some_iff.1 hx).1
    (List.getElem?_eq_some_iff.1 hy).1
  have hp := (gr_binCall_grows G st x y).1
  exact ⟨row, hrow, (h.binCall x y).bin_row (gr_prefix_get hp hx) (gr_prefix_get hp hy) hrow⟩

end Depccg.GlueRunProps
