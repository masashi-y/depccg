/-
  The two grammars keep every class of categories `CatA A S` (Proofs/CatClass.lean) that admits
  what the rules do to an atom (`RuleClosed`, for English `EnRuleClosed`): a matching rule returns an
  input or a template filled with bindings (`Rules.Rule.run_closed`), the other rules return an
  input, `y\y` or a fixed category.  Such classes are `C05.WF` (`wf_ruleClosed`), the two feature
  systems (`inEn_ruleClosed`, `inJa_ruleClosed`), "no `\` in an atom name" (`noBS_ruleClosed`), XML
  text (`xm_ruleClosed`) and "every feature comes from the inputs" (Props/C03.lean, Props/C04.lean).
  `clear_closed` asks for the one field it needs, so that it also serves `ProgramProps.ReadWF`, a
  class `CatA A S` for which no more than this is shown.
-/
import Depccg.Proofs.C03Lemmas
import Depccg.Proofs.C04Lemmas

namespace Depccg.Closure
open Depccg Cat Str Unify C06

variable {A : Str → Feat → Prop} {S : Nat → Prop}

theorem cond_cat {P : Cat → Prop} {e : Except Err (Option RuleRes)} {test : Except Err Bool}
    {c : Cat} {os sym : String} {r : RuleRes} (hc : P c) (he : e = C03.cond test c os sym)
    (h : e = .ok (some r)) : P r.cat := by
  rw [(C03.cond_inv he h).2]
  exact hc

theorem catA_en_comb {x y : Cat} (hA : EnRuleClosed A S) (hx : CatA A S x) (hy : CatA A S y)
    {c : En.Comb} (hc : c ∈ En.combinators) {r : RuleRes} (h : c x y = .ok (some r)) :
    CatA A S r.cat := by
  have run : ∀ R ∈ Rules.EnTable.rules, R.run x y = .ok (some r) → CatA A S r.cat := fun R hR h =>
    Rules.Rule.run_closed hA.toRuleClosed (Rules.EnTable.tmplOK R hR) hx hy h
  rcases Rules.mem_en hc with ⟨R, hR, e⟩ | rfl | rfl | rfl | rfl | rfl | rfl | rfl | rfl
  · exact run R hR (e x y ▸ h)
  · rw [Rules.EnTable.ba_run] at h
    split at h
    · rw [C03.mk_inv h]
      exact hx
    · exact run _ (List.mem_of_getElem? (i := 1) rfl) h
  · exact cond_cat (catA_fn hy hA.bwd hy) (C03.conj_eq x y) h
  · exact cond_cat hy (C03.conj2_eq x y) h
  · exact cond_cat hy (C03.rp1_eq x y) h
  · exact cond_cat hx (C03.rp2_eq x y) h
  · exact cond_cat (catA_fn hy hA.bwd hy) (C03.rpl_eq x y) h
  · exact cond_cat (catA_fn hA.sNP hA.bwd hA.sNP) (C03.comma_eq x y) h
  · exact cond_cat (catA_fn hA.sNP hA.fwd hA.sNP) (C03.pds_eq x y) h

theorem catA_ja_comb {x y : Cat} (hA : RuleClosed A S) (hx : CatA A S x) (hy : CatA A S y)
    {c : Ja.Comb} (hc : c ∈ Ja.combinators) {r : RuleRes} (h : c x y = .ok (some r)) :
    CatA A S r.cat := by
  rcases Rules.mem_ja hc with ⟨R, hR, e⟩ | rfl
  · exact Rules.Rule.run_closed hA (Rules.JaTable.tmplOK R hR) hx hy (e x y ▸ h)
  · rw [(C04.conjoin_inv h).2.2]
    exact hy

variable {P : Cat → Prop} (hP : ∀ c, P c ↔ CatA A S c)
include hP

theorem clear_closed (hn : ∀ b f, A b f → A b (.un none)) (args : List Str) {c c' : Cat} (h : P c)
    (hc : Cat.clear args c = .ok c') : P c' :=
  (hP _).2 (catA_clear hn args ((hP _).1 h) hc)

/-- the English binary rule function: the seen gate and the rule list only select among
    combinator results on the inputs with `nb` erased -/
theorem en_applyBinary_closed (hA : EnRuleClosed A S) {seen : Option (List (Cat × Cat))}
    {x y : Cat} {rs : List RuleRes} (hx : P x) (hy : P y) (h : En.applyBinary seen x y = .ok rs) :
    ∀ r ∈ rs, P r.cat := by
  intro r hr
  obtain ⟨c, hc, hcr⟩ := C03.applyBinary_mem (C14.clear_nb_eq x) (C14.clear_nb_eq y) h hr
  exact (hP _).2 (catA_en_comb hA (catA_clear hA.none _ ((hP x).1 hx) (C14.clear_nb_eq x))
    (catA_clear hA.none _ ((hP y).1 hy) (C14.clear_nb_eq y)) hc hcr)

theorem ja_applyBinary_closed (hA : RuleClosed A S) {seen : Option (List (Cat × Cat))}
    {x y : Cat} {rs : List RuleRes} (hx : P x) (hy : P y) (h : Ja.applyBinary seen x y = .ok rs) :
    ∀ r ∈ rs, P r.cat := by
  intro r hr
  obtain ⟨c, hc, hcr⟩ := C04.applyBinary_mem h hr
  exact (hP _).2 (catA_ja_comb hA ((hP x).1 hx) ((hP y).1 hy) hc hcr)

omit hP in
theorem gives_leftOf {x l : Cat} (hx : CatA A S x) (h : Ja.leftOf x = .ok l) : CatA A S l := by
  cases x with
  | atom b f => cases h
  | fn xl s xr => cases h; exact hx.1

end Depccg.Closure
