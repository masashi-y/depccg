/-
  `--format deriv` at the level of the whole output: the run of `Read.decBlockDoc` over the lines
  of one printed record and of all of them.
-/
import Depccg.Props.MainDerivDefs
import Depccg.Proofs.RecordLines
import Depccg.Proofs.C07DerivLemmas

namespace Depccg.CliProps
open Depccg Str Search GlueRun Lazy Print Cli LazyProps Read C07 TextProps FileProps

theorem md_run_lines : ∀ (ls : List Str), (∀ l ∈ ls, l ≠ []) →
    ∀ (n : Nat) (s : Str) (rows : List Str) (acc : List BlockRecord) (more : List Str),
    blockDocRun (.block n s rows) acc (ls ++ more) =
      blockDocRun (.block n s (ls.reverse ++ rows)) acc more
  | [], _ => fun _ _ _ _ _ => rfl
  | l :: ls, h => by
    intro n s rows acc more
    have hl : l.isEmpty = false := by
      cases l with
      | nil => exact absurd rfl (h [] (by simp))
      | cons _ _ => rfl
    simp only [List.cons_append, blockDocRun, blockDocStep, hl, Bool.false_eq_true, if_false]
    rw [md_run_lines ls (fun x hx => h x (by simp [hx]))]
    simp

theorem md_run_record (n : Nat) (sc : Str) (ls : List Str) (hne : ls ≠ []) (hls : ∀ l ∈ ls, l ≠ [])
    (acc : List BlockRecord) (more : List Str) :
    blockDocRun .between acc (header false n sc :: (ls ++ [] :: more)) =
      blockDocRun .between ((n, sc, blockText ls) :: acc) more := by
  have h1 : blockDocRun .between acc (header false n sc :: (ls ++ [] :: more)) =
      blockDocRun (.block n sc []) acc (ls ++ [] :: more) := by
    simp only [blockDocRun, blockDocStep, header_ne_nil, Bool.false_eq_true, if_false,
      decLineHeader_header]
  rw [h1, md_run_lines ls hls, List.append_nil]
  cases hr : ls.reverse with
  | nil => exact absurd (List.reverse_eq_nil_iff.1 hr) hne
  | cons x xs =>
    simp only [blockDocRun, blockDocStep, List.isEmpty_nil, if_true]
    rw [← hr, List.reverse_reverse]

theorem md_run_end : ∀ (tail : List Str) (acc : List BlockRecord),
    tail.all (fun l => l.isEmpty) = true → blockDocRun .between acc tail = some acc.reverse
  | [], _, _ => rfl
  | [] :: tail, acc, h => by
    simp only [blockDocRun, blockDocStep, List.isEmpty_nil, if_true]
    exact md_run_end tail acc (by simpa using h)
  | (_ :: _) :: _, _, h => by cases h

theorem md_run_docLines (tail : List Str) (ht : tail.all (fun l => l.isEmpty) = true) :
    ∀ (out : List BlockRecord), (∀ r ∈ out, 10 ∉ r.2.1 ∧ IsBlock r.2.2) → ∀ (acc : List BlockRecord),
    blockDocRun .between acc (docLines false out ++ tail) = some (acc.reverse ++ out)
  | [], _, acc => by simpa [docLines] using md_run_end tail acc ht
  | (n, sc, s) :: out, h, acc => by
    obtain ⟨h1, ls, hne, hls, (rfl : s = blockText ls)⟩ := h _ List.mem_cons_self
    rw [docLines_cons, header_lines n h1, blockText_lines ls fun l hl => (hls l hl).2]
    simp only [List.cons_append, List.nil_append, List.append_assoc]
    rw [md_run_record n sc ls hne fun l hl => (hls l hl).1,
      md_run_docLines tail ht out fun r hr => h r (List.mem_cons_of_mem _ hr)]
    simp

theorem blockDoc_reads : ReadsRecords decBlockDoc IsBlock := fun out tail text h ht e => by
  rw [decBlockDoc, e, md_run_docLines tail ht out h]
  rfl

end Depccg.CliProps
