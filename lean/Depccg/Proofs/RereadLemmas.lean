/-
  The tree returned by a reader that keeps categories and shape and looks the rule of every binary node up
  again with `guess` (`read_auto`, `_parse_ptb`, `read_xml`, `read_jigg_xml` all do): `reread`. The images of the
  four readers are instances. The lookup succeeds on well-formed categories of one feature system.
-/
import Depccg.Props.C08Defs
import Depccg.Props.C14
import Depccg.Proofs.TreeLemmas

namespace Depccg.TextProps
open Depccg Str

theorem nonEmptyBases_of_WF (c : Cat) (hc : C05.WF c) : C14.NonEmptyBases c := by
  induction c with
  | atom b f => exact hc.1.1
  | fn l s r ihl ihr => exact ⟨ihl hc.1, ihr hc.2.2⟩

theorem guess_total (lang : Lang) (target x y : Cat) (hx : OneSystem lang x) (hy : OneSystem lang y)
    (wx : C05.WF x) (wy : C05.WF y) : ∃ r, guess lang target x y = .ok r := by
  have hrs : ∃ rs, binaryRules lang x y = .ok rs := by
    cases lang with
    | en => exact C14.total_en none x y hx hy (nonEmptyBases_of_WF x wx) (nonEmptyBases_of_WF y wy)
    | ja => exact C14.total_ja none x y hx hy
  obtain ⟨rs, hrs⟩ := hrs
  exact ⟨_, C12.guess_eq hrs⟩

/-- `tokOf`: what the reader keeps of a token; `unLab s`: label and symbol it gives a unary node printed with
    label `s`; `head h g`: the head flag of a binary node, from the printed flag `h` and the looked-up rule's `g` —
    `fun h _ => h` for a format with a head field (AUTO), `fun _ g => g` otherwise (PTB, the XML formats).
    `guess` itself answers `unkRule c` for a node the grammar does not derive; the default `unkRule c` here only
    makes `reread` total where `guess` raises (children of two feature systems): there the readers fail, and
    `reread` is not what they return (`guess_kids` excludes the case). -/
def reread (lang : Lang) (tokOf : Token → Token) (unLab : Str → Str × Str) (head : Bool → Bool → Bool) : Tree → Tree
  | .leaf c tok _ _ => Tree.mkTerminal (tokOf tok) c
  | .un c s _ ch => .un c (unLab s).1 (unLab s).2 (reread lang tokOf unLab head ch)
  | .bin c _ _ h l r =>
    let rule := (guess lang c l.cat r.cat).toOption.getD (unkRule c)
    .bin c rule.opString rule.opSymbol (head h rule.headLeft)
      (reread lang tokOf unLab head l) (reread lang tokOf unLab head r)

/-- the default labels of `Tree.make_unary` -/
def lexUn (_ : Str) : Str × Str := (lit "lex", lit "<un>")

section
variable {lang : Lang} {tokOf : Token → Token} {unLab : Str → Str × Str} {head : Bool → Bool → Bool}
  {c : Cat} {a b : Str} {h : Bool} {l r : Tree}

theorem reread_cat : ∀ t : Tree, (reread lang tokOf unLab head t).cat = t.cat
  | .leaf .. => rfl
  | .un .. => rfl
  | .bin .. => rfl

theorem reread_bin {rule : RuleRes} (hg : guess lang c l.cat r.cat = .ok rule) :
    reread lang tokOf unLab head (.bin c a b h l r) =
      .bin c rule.opString rule.opSymbol (head h rule.headLeft)
        (reread lang tokOf unLab head l) (reread lang tokOf unLab head r) := by
  simp only [reread, hg, Except.toOption, Option.getD]

/-- the lookup at a node succeeds; the readers ask with the categories of the children they have built, which
    are those of the printed children (`reread_cat`) -/
theorem guess_kids (hw : AllCats C05.WF (.bin c a b h l r)) (ho : AllCats (OneSystem lang) (.bin c a b h l r)) :
    ∃ rule, guess lang c l.cat r.cat = .ok rule :=
  guess_total lang c l.cat r.cat ho.2.1.root ho.2.2.root hw.2.1.root hw.2.2.root

theorem skel_reread : ∀ t : Tree, C08.skel (reread lang tokOf unLab (fun h _ => h) t) = C08.skel t
  | .leaf .. => rfl
  | .un _ _ _ ch => by simp only [reread, C08.skel, skel_reread ch]
  | .bin _ _ _ _ l r => by simp only [reread, C08.skel, skel_reread l, skel_reread r]

end

end Depccg.TextProps
