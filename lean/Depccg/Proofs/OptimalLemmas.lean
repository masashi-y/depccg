/-
  The optimality argument for a head-uniform grammar (C01): A* with a consistent estimate and a
  closed set.  Head-uniformity makes the outside estimate a function of the span, so an item dropped
  because its key is closed is no better than the chart item of that key (`dropped_le`); hence every
  popped non-final item is matched in the chart by an item of its key with at least its inside
  score (`Kept`).  With `Closure`, every licensed derivation is closed by the chart with an
  at-least-as-good inside score or dominated by a waiting item (`cover`), hence every complete
  parse is dominated by a result or by a waiting item (`root_bound`, a `RootCover`).  Read off the
  final state: the best-scored result dominates every complete parse (`first_optimal`), and a
  search that stops by itself with no result had no parse to find (`failure_none`), whatever
  `nbest` is.
-/
import Depccg.Proofs.SearchClosure

namespace Depccg.SearchProps
open Depccg Search

variable {pick : Pick} {g : Grammar} {s : Sent} {cfg : Cfg}

theorem dhead_of_headLeft {d : Deriv}
    (hu : ∀ x y, ∀ r ∈ g.bin x y, r.headLeft = true) (h : Licensed g s cfg d) :
    dhead d = dstart d := by
  induction h with
  | leaf t c sc _ _ => rfl
  | un c rid d _ _ _ ih => simpa only [dhead, dstart] using ih
  | bin c rid hl l r _ _ _ hr ihl _ =>
    have : hl = true := hu _ _ _ (List.mem_of_getElem? hr)
    subst this
    simpa only [dhead, dstart, if_true] using ihl

theorem dhead_of_headRight {d : Deriv}
    (hu : ∀ x y, ∀ r ∈ g.bin x y, r.headLeft = false) (h : Licensed g s cfg d) :
    dhead d + 1 = dstart d + dlen d := by
  induction h with
  | leaf t c sc _ _ => rfl
  | un c rid d _ _ _ ih => simpa only [dhead, dstart, dlen] using ih
  | bin c rid hl l r _ _ hadj hr _ ihr =>
    have : hl = false := hu _ _ _ (List.mem_of_getElem? hr)
    subst this
    simp only [dstop] at hadj
    simp only [dhead, dstart, dlen, Bool.false_eq_true, if_false]
    omega

def ChartHas (chart : List Item) (start len cat : Nat) (sc : Int) : Prop :=
  ∃ c ∈ chart, c.start = start ∧ c.len = len ∧ c.cat = cat ∧ sc ≤ c.inS

def Kept (st : St) : Prop :=
  ∀ x ∈ st.popped, x.fin = false → ChartHas st.chart x.start x.len x.cat x.inS

/-- the chart has an item of `d`'s key that is at least as good inside; it need not carry `d` -/
def Closed (s : Sent) (cfg : Cfg) (st : St) (d : Deriv) : Prop :=
  ChartHas st.chart (dstart d) (dlen d) (dcat d) (inScore s cfg d)

section Uniform
variable (hu : HeadUniform g)
include hu

theorem dhead_eq_of_span {d₁ d₂ : Deriv}
    (h₁ : Licensed g s cfg d₁) (h₂ : Licensed g s cfg d₂) (hst : dstart d₁ = dstart d₂)
    (hlen : dlen d₁ = dlen d₂) : dhead d₁ = dhead d₂ := by
  rcases hu with hu | hu
  · rw [dhead_of_headLeft hu h₁, dhead_of_headLeft hu h₂, hst]
  · have e₁ := dhead_of_headRight hu h₁
    have e₂ := dhead_of_headRight hu h₂
    omega

theorem NonFinOK.head_eq {it : Item} {d : Deriv}
    (h : NonFinOK g s cfg it) (hd : Licensed g s cfg d)
    (hst : it.start = dstart d) (hlen : it.len = dlen d) : it.head = dhead d := by
  rw [h.head]
  exact dhead_eq_of_span hu h.lic hd (by rw [← h.start, hst]) (by rw [← h.len, hlen])

/-- a dropped item is no better than the chart item of its key: that one was popped earlier,
    so its priority is at least as large, and the outside scores agree (head-uniformity) -/
theorem dropped_le {st : St} {it : Item}
    (hok : StOK g s cfg st) (hprio : PrioOK st) (hmem : it ∈ st.agenda) (hf : it.fin = false)
    (hc : inChart st.chart it = true) : ChartHas st.chart it.start it.len it.cat it.inS := by
  simp only [inChart, List.any_eq_true, decide_eq_true_eq] at hc
  obtain ⟨o, ho, h1, h2, h3⟩ := hc
  refine ⟨o, ho, h1, h2, h3, ?_⟩
  have hle := hprio.bound it hmem o (hok.chart_sub o ho)
  have hoo := (hok.chart o ho).2
  have hit := (hok.agenda it hmem).1 hf
  have hh : o.head = it.head := by
    rw [hit.head]
    exact hoo.head_eq hu hit.lic (by rw [h1, hit.start]) (by rw [h2, hit.len])
  simp only [Item.prio, hoo.outS, hit.outS, h1, h2, hh] at hle
  omega

theorem Kept.step {st st' : St}
    (hp : PickOK pick) (hok : StOK g s cfg st) (hprio : PrioOK st)
    (h : Kept st) (hstep : stepWith pick g s cfg st = some st') : Kept st' := by
  obtain ⟨-, it, rest, hpick, hcases⟩ := stepWith_cases hstep
  have hitmem : it ∈ st.agenda := hp.mem_of_pop hpick
  rcases hcases with ⟨-, hc, rfl⟩ | ⟨hf, rfl⟩ | ⟨-, rfl⟩
  · refine List.forall_mem_cons.2 ⟨fun hf => ?_, h⟩
    simp only [hf, Bool.false_eq_true, if_false] at hc
    exact dropped_le (st := st) hu hok hprio hitmem hf hc
  · exact List.forall_mem_cons.2 ⟨fun hf' => absurd hf' (by simp [hf]), h⟩
  · refine List.forall_mem_cons.2
      ⟨fun _ => ⟨it, List.mem_cons_self, rfl, rfl, rfl, Int.le_refl _⟩, fun x hx hfx => ?_⟩
    obtain ⟨c, hc, hk⟩ := h x hx hfx
    exact ⟨c, List.mem_cons_of_mem _ hc, hk⟩

/-- an item of `d`'s key that was created with at least `d`'s inside score settles the alternative:
    `d` is open if the item still waits (by head-uniformity its outside score is that of `d`),
    closed by `Kept` if it was popped -/
theorem cover_of_created {st : St} {x : Item} {d : Deriv}
    (hk : Kept st) (hd : Licensed g s cfg d) (hx : x ∈ allItems st)
    (hxok : x.fin = false ∧ NonFinOK g s cfg x) (hst : x.start = dstart d)
    (hlen : x.len = dlen d) (hcat : x.cat = dcat d) (hin : inScore s cfg d ≤ x.inS) :
    Closed s cfg st d ∨ Open s cfg st d := by
  rcases List.mem_append.1 hx with hx | hx
  · refine Or.inr ⟨x, hx, ?_⟩
    rw [Item.prio, Pd, hxok.2.outS, hst, hlen, hxok.2.head_eq hu hd hst hlen]
    omega
  · obtain ⟨c, hc, k1, k2, k3, k4⟩ := hk x hx hxok.1
    exact Or.inl ⟨c, hc, by rw [k1, hst], by rw [k2, hlen], by rw [k3, hcat], Int.le_trans hin k4⟩

section Estimate
variable (hs : SentOK s) (hpen : 0 ≤ cfg.penalty)
include hs hpen

theorem cover {st : St} (hok : StOK g s cfg st) (h : Closure g s cfg st) (hk : Kept st)
    {d : Deriv} (hd : Licensed g s cfg d) : Closed s cfg st d ∨ Open s cfg st d := by
  refine closed_or_open hs hpen ?_ ?_ ?_ hd
  · intro t c hlic
    cases hlic with
    | leaf _ _ sc ht hm =>
      refine cover_of_created hu hk (.leaf t c sc ht hm) (h.leaf _ (leafItem_mem ht hm))
        ⟨rfl, leafItem_ok ht hm⟩ rfl rfl rfl ?_
      rw [inScore_leaf]
      exact Int.le_of_eq (mem_admitted hm).2.symm
  · rintro c rid d' hlic ⟨c', hc', k1, k2, k3, k4⟩
    cases hlic with
    | un _ _ _ hd' hr hcond =>
      have hcond' : s.n = 1 ∨ c'.len ≠ s.n := by rw [k2]; exact hcond
      have hx := unItem_mem (g := g) (cfg := cfg) (it := c') (c := c) (rid := rid)
        (by rw [k3]; exact hr)
      refine cover_of_created hu hk (.un c rid d' hd' hr hcond) (h.un c' hc' hcond' _ hx)
        (unaryItems_ok (hok.chart c' hc').2 (hok.chart c' hc').1 hcond' hx) k1 k2 rfl ?_
      rw [inScore_un]
      exact Int.sub_le_sub_right k4 _
  · rintro c rid hl l r hlic ⟨cl, hcl, l1, l2, l3, l4⟩ ⟨cr, hcr, r1, r2, r3, r4⟩
    cases hlic with
    | bin _ _ _ _ _ hl' hr' hadj hrule =>
      have hadj' : cr.start = cl.stop := by
        simp only [dstop] at hadj
        rw [Item.stop, r1, l1, l2, hadj]
      have hrule' : (g.bin cl.cat cr.cat)[rid]? = some ⟨c, hl⟩ := by rw [l3, r3]; exact hrule
      have hx := binItem_mem s hrule'
      have hclok := (hok.chart cl hcl).2
      have hcrok := (hok.chart cr hcr).2
      refine cover_of_created hu hk (.bin c rid hl l r hl' hr' hadj hrule)
        (h.bin cl hcl cr hcr hadj' _ hx) (binaryItems_ok hclok hcrok hadj' hx) l1
        (by show cl.len + cr.len = dlen l + dlen r; rw [l2, r2]) rfl ?_
      rw [inScore_bin]
      show _ ≤ cl.inS + cr.inS +
        depAt s (if hl = true then cr.head else cl.head) ((if hl = true then cl.head else cr.head) + 1)
      rw [hclok.head_eq hu hl' l1 l2, hcrok.head_eq hu hr' r1 r2]
      cases hl <;> exact Int.add_le_add_right (Int.add_le_add l4 r4) _

/-- every complete parse is dominated by a result or by a waiting item: by the witness of its
    openness, or by the final item of the chart item closing it -/
theorem root_bound {st : St} (hok : StOK g s cfg st) (h : Closure g s cfg st)
    (hk : Kept st) (hfk : FinKept st) :
    RootCover g s cfg (fun r d => modelScore s cfg d ≤ r.prio) st := by
  intro d hd
  rcases cover hu hs hpen hok h hk hd.1 with ⟨c, hc, k1, k2, k3, k4⟩ | ⟨a, ha, hle⟩
  · obtain ⟨hl, h0, hn, hroot⟩ := hd
    have hroot' : s.roots.elem c.cat = true := by rw [k3]; simpa using hroot
    have hle : modelScore s cfg d ≤ (finItem s c).prio := by
      rw [modelScore_eq]
      simp only [Item.prio, finItem, (hok.chart c hc).2.head_eq hu hl k1 k2]
      omega
    rcases List.mem_append.1 (h.fin c hc (by rw [k2, hn]) hroot') with hm | hm
    · exact .inr ⟨_, hm, hle⟩
    · exact .inl ⟨_, hfk _ hm rfl, hle⟩
  · exact .inr ⟨a, ha, Int.le_trans (modelScore_le_Pd hs hd) hle⟩

theorem uniform_final (hp : PickOK pick) :
    StOK g s cfg (finalSt pick g s cfg) ∧ PrioOK (finalSt pick g s cfg) ∧
      RootCover g s cfg (fun r d => modelScore s cfg d ≤ r.prio) (finalSt pick g s cfg) := by
  obtain ⟨hok, hprio, hcl, hk, hfk⟩ := final_inv hp g s cfg
    (fun st => PrioOK st ∧ Closure g s cfg st ∧ Kept st ∧ FinKept st)
    ⟨.init pick s cfg, .init hp g s cfg, fun _ h => (nomatch h), fun _ h => nomatch h⟩
    fun _ _ hok h hstep => ⟨h.1.step hp hs hpen hok hstep, h.2.1.step hp hok hstep,
      h.2.2.1.step hu hp hok h.1 hstep, h.2.2.2.step hstep⟩
  exact ⟨hok, hprio, root_bound hu hs hpen hok hcl hk hfk⟩

theorem first_optimal (hp : PickOK pick)
    {t : Item} {rest : List Item} (hres : (runWith pick g s cfg).results = t :: rest)
    {d : Deriv} (hd : LicensedRoot g s cfg d) : modelScore s cfg d ≤ t.prio := by
  obtain ⟨hok, hprio, hroot⟩ := uniform_final hu hs hpen hp
  rw [results_eq] at hres
  have hmem : ∀ x, x ∈ (finalSt pick g s cfg).goal ↔ x ∈ t :: rest :=
    fun x => by rw [← hres, sortDesc_perm.mem_iff]
  have ht := (hmem t).2 List.mem_cons_self
  by_cases h : ∃ r ∈ (finalSt pick g s cfg).goal, modelScore s cfg d ≤ r.prio
  · -- a result dominates `d`, and `t` heads the sorted list
    obtain ⟨r, hr, hle⟩ := h
    refine Int.le_trans hle ?_
    rcases List.mem_cons.1 ((hmem r).1 hr) with rfl | hr
    · exact Int.le_refl _
    · exact (List.pairwise_cons.1 (hres ▸ sortDesc_sorted (finalSt pick g s cfg).goal)).1 r hr
  · exact hroot.not_better hok hprio hd h ht

theorem failure_none (hp : PickOK pick)
    (hn : 0 < cfg.nbest) (hres : (runWith pick g s cfg).results = [])
    (hsteps : (runWith pick g s cfg).steps < cfg.maxStep) : ¬ ∃ d, LicensedRoot g s cfg d := by
  have hg : (finalSt pick g s cfg).goal = [] := (hres ▸ results_perm.symm).eq_nil
  rintro ⟨d, hd⟩
  obtain ⟨r, hr, -⟩ := (uniform_final hu hs hpen hp).2.2.complete hp hsteps (hg ▸ hn) hd
  rw [hg] at hr
  cases hr

end Estimate
end Uniform

end Depccg.SearchProps
