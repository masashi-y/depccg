/-
  Lemmas for C06: a successful `scan` is a sequence of dictionary writes (`matched` into `cats`,
  `writes` into `results`), the `agree` loop is a test of every shared variable followed by the
  writes of their `assignment`s (`C14.assignment`, Props/C14Defs.lean: it is part of the statement
  of `NoConflict`), and `unifyOrd` is these three in a row.  What a successful match leaves behind is
  read through `parts` (the category each variable stands for: `bindings_get_eq`, `parts_sub`,
  `parts_isSome`, `parts_eq`) and `mapping_entries` (the entries of the feature mapping);
  `unifyOrd_spec` says all of it in one statement.
-/
import Depccg.Props.C06Defs
import Depccg.Props.C14Defs
import Depccg.Props.C13
import Depccg.Proofs.DictLemmas
import Depccg.Proofs.StrLemmas

namespace Depccg

def Feat.isTri : Feat → Bool
  | .tri .. => true
  | .un _ => false

end Depccg

namespace Depccg.C06
open Depccg Cat Str Unify

/-- the writes of `scanDeep t v i`: the features of `t` under the keys `v i`, `v (i+1)`, … -/
def deepW (t : Cat) (v : Str) (i : Nat) : List (Str × Feat) :=
  ((feats t).zipIdx i).map fun e => (v ++ Str.ofNat e.2, e.1)

theorem scanDeep_eq (t : Cat) (v : Str) (i : Nat) (res : Dict Str Feat) :
    scanDeep t v i res = (i + (feats t).length, setAll res (deepW t v i)) := by
  induction t generalizing i res with
  | atom b f => rfl
  | fn l s r ihl ihr =>
    simp only [scanDeep, ihl, ihr, feats, deepW, List.zipIdx_append, List.map_append,
      setAll_append, List.length_append, Nat.add_assoc]

/-- the key of the `j`-th feature written at a pattern atom `v` matched with `t` -/
def keyOf (v : Str) : Cat → Nat → Str
  | .atom .., _ => v
  | .fn .., j => v ++ Str.ofNat j

/-- the writes into `results` at a pattern atom `v` matched with `t` -/
def atomW (v : Str) : Cat → List (Str × Feat)
  | .atom _ f => [(v, f)]
  | .fn l s r => deepW (.fn l s r) v 0

theorem mem_atomW {v : Str} {t : Cat} {k : Str} {f : Feat} :
    (k, f) ∈ atomW v t ↔ ∃ j, (feats t)[j]? = some f ∧ k = keyOf v t j := by
  cases t with
  | atom b g =>
    simp only [atomW, feats, keyOf, List.mem_singleton, Prod.mk.injEq]
    constructor
    · rintro ⟨rfl, rfl⟩; exact ⟨0, rfl, rfl⟩
    · rintro ⟨j, hj, rfl⟩
      cases j with
      | zero => cases hj; exact ⟨rfl, rfl⟩
      | succ j => cases hj
  | fn l s r =>
    simp only [atomW, deepW, keyOf, List.mem_map, List.mem_zipIdx_iff_getElem?, Prod.exists,
      Prod.mk.injEq]
    constructor
    · rintro ⟨g, j, hj, rfl, rfl⟩; exact ⟨j, hj, rfl⟩
    · rintro ⟨j, hj, rfl⟩; exact ⟨f, j, hj, rfl, rfl⟩

theorem keyOf_prefix (v : Str) (t : Cat) (j : Nat) : ∃ s, keyOf v t j = v ++ s := by
  cases t with
  | atom b g => exact ⟨[], (List.append_nil v).symm⟩
  | fn l s r => exact ⟨_, rfl⟩

theorem keyOf_congr {a b : Cat} (h : Cat.xorEq a b = true) (v : Str) (j : Nat) :
    keyOf v a j = keyOf v b j := by
  have h := (C13.xorEq_iff_blind a b).1 h
  cases a <;> cases b <;> first | rfl | cases h

theorem keyOf_inj {v : Str} {t : Cat} {i j : Nat} (h : keyOf v t i = keyOf v t j)
    (hi : i < (feats t).length) (hj : j < (feats t).length) : i = j := by
  cases t with
  | atom b g => simp only [feats, List.length_singleton] at hi hj; omega
  | fn l s r => exact ofNat_inj (List.append_cancel_left h)

theorem atomW_key {v : Str} {t : Cat} {k : Str} {f : Feat} (h : (k, f) ∈ atomW v t) :
    ∃ s, k = v ++ s := by
  obtain ⟨j, -, rfl⟩ := mem_atomW.1 h
  exact keyOf_prefix v t j

theorem atomW_functional (v : Str) (t : Cat) : Functional (atomW v t) := by
  intro k f f' h1 h2
  obtain ⟨j, hj, rfl⟩ := mem_atomW.1 h1
  obtain ⟨j', hj', hk'⟩ := mem_atomW.1 h2
  cases keyOf_inj hk' (List.getElem?_eq_some_iff.1 hj).1 (List.getElem?_eq_some_iff.1 hj').1
  exact Option.some.inj (hj.symm.trans hj')

/-- the writes into `results` of a successful `scan p t` -/
def writes (p t : Cat) : List (Str × Feat) := (matched p t).flatMap fun e => atomW e.1 e.2

theorem writes_atom (v : Str) (g : Feat) (t : Cat) : writes (.atom v g) t = atomW v t :=
  List.flatMap_singleton ..

theorem writes_fn_fn (pl pr tl tr : Cat) (ps ts : Nat) :
    writes (.fn pl ps pr) (.fn tl ts tr) = writes pl tl ++ writes pr tr :=
  List.flatMap_append

theorem mem_writes {p t : Cat} {k : Str} {f : Feat} :
    (k, f) ∈ writes p t ↔ ∃ v t', (v, t') ∈ matched p t ∧ (k, f) ∈ atomW v t' := by
  simp only [writes, List.mem_flatMap, Prod.exists]

theorem mem_matched_vars {p t : Cat} {v : Str} {c : Cat} (h : (v, c) ∈ matched p t) :
    v ∈ vars p := by
  fun_induction matched p t
  case case1 => cases List.mem_singleton.1 h; exact List.mem_singleton_self _
  case case2 ihl ihr => exact List.mem_append.2 ((List.mem_append.1 h).imp ihl ihr)
  case case3 => cases h

theorem mem_matched_feats {p t : Cat} {v : Str} {c : Cat} (h : (v, c) ∈ matched p t) :
    ∀ f ∈ feats c, f ∈ feats t := by
  fun_induction matched p t
  case case1 => cases List.mem_singleton.1 h; exact fun f hf => hf
  case case2 ihl ihr =>
    exact fun f hf => List.mem_append.2 ((List.mem_append.1 h).imp (ihl · f hf) (ihr · f hf))
  case case3 => cases h

theorem mem_writes_feats {p t : Cat} {k : Str} {f : Feat} (h : (k, f) ∈ writes p t) :
    f ∈ feats t := by
  obtain ⟨v, t', hm, ha⟩ := mem_writes.1 h
  obtain ⟨j, hj, -⟩ := mem_atomW.1 ha
  exact mem_matched_feats hm f (List.mem_of_getElem? hj)

theorem matched_of_shape {p t : Cat} (hs : Shape p t) {v : Str} (hv : v ∈ vars p) :
    ∃ c, (v, c) ∈ matched p t := by
  fun_induction matched p t
  case case1 t => cases List.mem_singleton.1 hv; exact ⟨t, List.mem_singleton_self _⟩
  case case2 ihl ihr =>
    rcases List.mem_append.1 hv with hv | hv
    · obtain ⟨c, hc⟩ := ihl hs.2.1 hv; exact ⟨c, List.mem_append_left _ hc⟩
    · obtain ⟨c, hc⟩ := ihr hs.2.2 hv; exact ⟨c, List.mem_append_right _ hc⟩
  case case3 => exact hs.elim

theorem Shape.fn_inv {pl : Cat} {ps : Nat} {pr t : Cat} (h : Shape (.fn pl ps pr) t) :
    ∃ tl ts tr, t = .fn tl ts tr ∧ (ps = ts ∨ ps = cBar ∨ ts = cBar) ∧ Shape pl tl ∧ Shape pr tr := by
  cases t with
  | atom b f => exact h.elim
  | fn tl ts tr => exact ⟨tl, ts, tr, rfl, h⟩

theorem linear_fn {pl pr : Cat} {ps : Nat} (h : Linear (.fn pl ps pr)) :
    Linear pl ∧ Linear pr ∧ ∀ v, v ∈ vars pl → v ∉ vars pr := by
  have h := List.nodup_append.1 h
  exact ⟨h.1, h.2.1, fun v h1 h2 => h.2.2 v h1 v h2 rfl⟩

theorem matched_functional {p : Cat} (hl : Linear p) (t : Cat) : Functional (matched p t) := by
  intro k v v' h1 h2
  fun_induction matched p t
  case case1 => cases List.mem_singleton.1 h1; cases List.mem_singleton.1 h2; rfl
  case case2 ihl ihr =>
    obtain ⟨hll, hlr, hd⟩ := linear_fn hl
    rcases List.mem_append.1 h1 with h1 | h1 <;> rcases List.mem_append.1 h2 with h2 | h2
    · exact ihl hll h1 h2
    · exact absurd (mem_matched_vars h2) (hd k (mem_matched_vars h1))
    · exact absurd (mem_matched_vars h1) (hd k (mem_matched_vars h2))
    · exact ihr hlr h1 h2
  case case3 => cases h1

theorem scan_ok {p t : Cat} {cats cats' : Dict Str Cat} {res res' : Dict Str Feat}
    (h : scan p t cats res = (true, cats', res')) :
    Shape p t ∧ cats' = setAll cats (matched p t) ∧ res' = setAll res (writes p t) := by
  fun_induction scan p t cats res generalizing cats' res'
  case case2 => cases h; exact ⟨trivial, rfl, by rw [scanDeep_eq, writes_atom]; rfl⟩
  case case3 => cases h; exact ⟨trivial, rfl, by rw [writes_atom]; rfl⟩
  case case4 hs _ _ h1 ih1 ih2 =>
    obtain ⟨s1, rfl, rfl⟩ := ih1 h1
    obtain ⟨s2, rfl, rfl⟩ := ih2 h
    simp only [Bool.or_eq_true, beq_iff_eq, or_assoc] at hs
    exact ⟨⟨hs, s1, s2⟩, by rw [matched, setAll_append], by rw [writes_fn_fn, setAll_append]⟩
  all_goals cases h

theorem scan_eq {p t : Cat} {cats : Dict Str Cat} {res : Dict Str Feat}
    (h : (scan p t cats res).1 = true) :
    scan p t cats res = (true, setAll cats (matched p t), setAll res (writes p t)) := by
  rcases hsc : scan p t cats res with ⟨b, cats', res'⟩
  rw [hsc] at h
  cases h
  obtain ⟨-, rfl, rfl⟩ := scan_ok hsc
  rfl

theorem scan_shape {p t : Cat} {cats : Dict Str Cat} {res : Dict Str Feat}
    (h : (scan p t cats res).1 = true) : Shape p t :=
  (scan_ok (scan_eq h)).1

/-- no entry of `l` meets, under its variable, a stored category that differs from it in more than
    features: `scan` over `l` against `cats` never takes the `clash` branch (`scan_true_iff`) -/
def NoClash (cats : Dict Str Cat) (l : List (Str × Cat)) : Prop :=
  ∀ v t c, (v, t) ∈ l → Dict.get? cats v = some c → Cat.xorEq t c = true

theorem NoClash.nil (l : List (Str × Cat)) : NoClash [] l := fun _ _ _ _ h => by cases h

theorem noClash_append {cats : Dict Str Cat} {l₁ l₂ : List (Str × Cat)} :
    NoClash cats (l₁ ++ l₂) ↔ NoClash cats l₁ ∧ NoClash cats l₂ := by
  simp only [NoClash, List.mem_append]
  exact ⟨fun h => ⟨fun v t c hm => h v t c (Or.inl hm), fun v t c hm => h v t c (Or.inr hm)⟩,
    fun h v t c hm => hm.elim (h.1 v t c) (h.2 v t c)⟩

/-- the `let clash` of `Unify.scan` under a name, so that `noClash_singleton` can speak of it -/
def clashB (cats : Dict Str Cat) (b : Str) (t : Cat) : Bool :=
  match Dict.get? cats b with
  | some c => !(Cat.xorEq t c)
  | none => false

theorem noClash_singleton {cats : Dict Str Cat} {b : Str} {t : Cat} :
    NoClash cats [(b, t)] ↔ clashB cats b t = false := by
  simp only [NoClash, List.mem_singleton, Prod.mk.injEq, clashB]
  constructor
  · intro h
    split
    next c hc => rw [h b t c ⟨rfl, rfl⟩ hc]; rfl
    next => rfl
  · rintro h v t' c ⟨rfl, rfl⟩ hc
    rw [hc] at h
    simpa using h

theorem noClash_setAll {cats : Dict Str Cat} {W l : List (Str × Cat)}
    (hd : ∀ v t t', (v, t) ∈ l → (v, t') ∉ W) : NoClash (setAll cats W) l ↔ NoClash cats l := by
  refine forall_congr' fun v => forall_congr' fun t => forall_congr' fun c => ?_
  refine imp_congr_right fun hm => ?_
  rw [get?_setAll_notin fun t' => hd v t t' hm]

theorem scan_true_iff {p : Cat} (hl : Linear p) (t : Cat) (cats : Dict Str Cat)
    (res : Dict Str Feat) :
    (scan p t cats res).1 = true ↔ Shape p t ∧ NoClash cats (matched p t) := by
  fun_induction scan p t cats res
  case case1 h => simpa [Shape, matched, noClash_singleton] using (show clashB _ _ _ = true from h)
  case case2 h _ =>
    simpa [Shape, matched, noClash_singleton] using (show ¬ clashB _ _ _ = true from h)
  case case3 h _ =>
    simpa [Shape, matched, noClash_singleton] using (show ¬ clashB _ _ _ = true from h)
  case case4 hs _ _ h1 ih1 ih2 =>
    obtain ⟨hll, hlr, hd⟩ := linear_fn hl
    obtain ⟨_, rfl, -⟩ := scan_ok h1
    rw [h1] at ih1
    obtain ⟨s1, n1⟩ := (ih1 hll).1 rfl
    simp only [Bool.or_eq_true, beq_iff_eq, or_assoc] at hs
    -- the variables of the right half are not among those just written
    rw [ih2 hlr,
      noClash_setAll fun v t t' hm hm' => hd v (mem_matched_vars hm') (mem_matched_vars hm)]
    simp only [Shape, matched, noClash_append, hs, s1, n1, true_and]
  case case5 hs _ _ h1 ih1 =>
    rw [h1] at ih1
    simp only [Shape, matched, noClash_append]
    exact iff_of_false Bool.false_ne_true fun h =>
      Bool.false_ne_true ((ih1 (linear_fn hl).1).2 ⟨h.1.2.1, h.2.1⟩)
  case case6 hs =>
    simp only [Bool.or_eq_true, beq_iff_eq, or_assoc] at hs
    exact iff_of_false Bool.false_ne_true fun h => hs h.1.1
  case case7 => exact iff_of_false Bool.false_ne_true fun h => h.1

theorem unifies_tri_tri (k1 v1 k2 v2 k3 v3 c1 d1 c2 d2 c3 d3 : Str) :
    Feat.unifies (.tri k1 v1 k2 v2 k3 v3) (.tri c1 d1 c2 d2 c3 d3) =
      .ok (decide ((k1 = c1 ∧ k2 = c2 ∧ k3 = c3) ∧
        (v1 = d1 ∨ startsWith v1 [88] = true) ∧ (v2 = d2 ∨ startsWith v2 [88] = true) ∧
        (v3 = d3 ∨ startsWith v3 [88] = true))) := by
  simp only [Feat.unifies]
  by_cases hp : Feat.pyEq (.tri k1 v1 k2 v2 k3 v3) (.tri c1 d1 c2 d2 c3 d3) = true
  · rw [if_pos hp]
    simp only [Feat.pyEq, Bool.and_eq_true, beq_iff_eq] at hp
    obtain ⟨⟨⟨rfl, rfl⟩, ⟨rfl, rfl⟩⟩, ⟨rfl, rfl⟩⟩ := hp
    simp
  · rw [if_neg hp]
    by_cases hk : k1 = c1 ∧ k2 = c2 ∧ k3 = c3
    · obtain ⟨rfl, rfl, rfl⟩ := hk
      simp only [beq_self_eq_true, Bool.and_self, Bool.not_true, Bool.false_eq_true, if_false,
        Except.ok.injEq, and_self, true_and]
      rw [Bool.eq_iff_iff]
      simp [and_assoc]
    · have : (!(k1 == c1 && k2 == c2 && k3 == c3)) = true := by
        simp only [Bool.not_eq_true', Bool.and_eq_false_iff, beq_eq_false_iff_ne, ne_eq]
        by_cases h1 : k1 = c1
        · by_cases h2 : k2 = c2
          · exact Or.inr fun h3 => hk ⟨h1, h2, h3⟩
          · exact Or.inl (Or.inr h2)
        · exact Or.inl (Or.inl h1)
      rw [if_pos this]
      simp [hk]

theorem unifies_un_un (a b : Option Str) :
    Feat.unifies (.un a) (.un b) =
      .ok (decide (a = some (lit "X") ∨ a = none ∨ a = some (lit "nb") ∨ a = b)) := by
  simp only [Feat.unifies, Feat.isVariable, Feat.isIgnorable, Feat.pyEq, Except.ok.injEq]
  rw [Bool.eq_iff_iff]
  simp [or_assoc]

theorem unifies_total {f g : Feat} (h : f.isTri = g.isTri) : ∃ b, Feat.unifies f g = .ok b := by
  cases f with
  | un a => exact ⟨_, rfl⟩
  | tri k1 v1 k2 v2 k3 v3 =>
    cases g with
    | un b => cases h
    | tri c1 d1 c2 d2 c3 d3 => exact ⟨_, unifies_tri_tri ..⟩

theorem compat_iff {f g : Feat} (h : f.isTri = g.isTri) :
    Compat f g ↔ (Feat.unifies f g = .ok true ∨ Feat.unifies g f = .ok true) := by
  cases f with
  | un a =>
    cases g with
    | tri => cases h
    | un b =>
      rw [unifies_un_un, unifies_un_un]
      simp only [Compat, Except.ok.injEq, decide_eq_true_eq]
      -- seven alternatives, of which the first speaks of both sides, sorted by the side they speak of
      have hab : a = b ↔ b = a := eq_comm
      simp only [← hab, or_left_comm, or_comm, or_self_left]
  | tri k1 v1 k2 v2 k3 v3 =>
    cases g with
    | un b => cases h
    | tri c1 d1 c2 d2 c3 d3 =>
      rw [unifies_tri_tri, unifies_tri_tri]
      simp only [Compat, Except.ok.injEq, decide_eq_true_eq]
      constructor
      · rintro ⟨hk, h | h⟩
        · exact Or.inl ⟨hk, h⟩
        · exact Or.inr ⟨⟨hk.1.symm, hk.2.1.symm, hk.2.2.symm⟩, h⟩
      · rintro (⟨hk, h⟩ | ⟨hk, h⟩)
        · exact ⟨hk, Or.inl h⟩
        · exact ⟨⟨hk.1.symm, hk.2.1.symm, hk.2.2.symm⟩, Or.inr h⟩

theorem compat_isTri {f g : Feat} (h : Compat f g) : f.isTri = g.isTri := by
  cases f <;> cases g <;> first | rfl | exact h.elim

/-- `Compat` asks for a match in one of the two directions -/
theorem compat_symm {f g : Feat} (h : Compat f g) : Compat g f :=
  have hk := compat_isTri h
  (compat_iff hk.symm).2 ((compat_iff hk).1 h).symm

theorem compat_refl (f : Feat) : Compat f f := by
  cases f with
  | un a => exact Or.inl rfl
  | tri k1 v1 k2 v2 k3 v3 => exact ⟨⟨rfl, rfl, rfl⟩, Or.inl ⟨Or.inl rfl, Or.inl rfl, Or.inl rfl⟩⟩

theorem allCompat_symm {l1 l2 : List Feat} (h : AllCompat l1 l2) : AllCompat l2 l1 := by
  induction l1 generalizing l2 with
  | nil =>
    cases l2 with
    | nil => trivial
    | cons g gs => exact h.elim
  | cons f fs ih =>
    cases l2 with
    | nil => exact h.elim
    | cons g gs => exact ⟨compat_symm h.1, ih h.2⟩

theorem allCompat_refl (l : List Feat) : AllCompat l l := by
  induction l with
  | nil => trivial
  | cons f fs ih => exact ⟨compat_refl f, ih⟩

theorem sameKind_iff {x y : Cat} :
    SameKind x y ↔ ∃ k, ∀ f ∈ feats x ++ feats y, f.isTri = k := by
  constructor
  · rintro (h | h)
    · exact ⟨false, fun f hf => by obtain ⟨v, rfl⟩ := h f hf; rfl⟩
    · exact ⟨true, fun f hf => by obtain ⟨k1, v1, k2, v2, k3, v3, rfl⟩ := h f hf; rfl⟩
  · rintro ⟨k, h⟩
    cases k
    · refine Or.inl fun f hf => ?_
      cases f with
      | un v => exact ⟨v, rfl⟩
      | tri => cases h _ hf
    · refine Or.inr fun f hf => ?_
      cases f with
      | un v => cases h _ hf
      | tri k1 v1 k2 v2 k3 v3 => exact ⟨k1, v1, k2, v2, k3, v3, rfl⟩

/-- the agreement loop goes on after `v`: both sides have a feature under `v` and one direction of
    `unifies` answers `True`, the second being asked only when the first answered `False`; neither
    raises -/
def Passes (xf yf : Dict Str Feat) (v : Str) : Prop :=
  ∃ fx fy, Dict.get? xf v = some fx ∧ Dict.get? yf v = some fy ∧
    (Feat.unifies fx fy = .ok true ∨ (Feat.unifies fx fy = .ok false ∧ Feat.unifies fy fx = .ok true))

theorem agree_cons_of_passes {xf yf : Dict Str Feat} {v : Str} (h : Passes xf yf v) (vs : List Str)
    (m : Dict Feat Feat) :
    agree xf yf (v :: vs) m = agree xf yf vs (setAll m (C14.assignment xf yf v).toList) := by
  obtain ⟨fx, fy, hx, hy, h | ⟨h1, h2⟩⟩ := h
  · simp only [agree, C14.assignment, hx, hy, h]
    split <;> rfl
  · simp only [agree, C14.assignment, hx, hy, h1, h2]
    split <;> rfl

theorem passes_of_agree_cons {xf yf : Dict Str Feat} {v : Str} {vs : List Str}
    {m m' : Dict Feat Feat} (h : agree xf yf (v :: vs) m = .ok (some m')) : Passes xf yf v := by
  rw [agree] at h
  split at h
  next fx fy hx hy =>
    refine ⟨fx, fy, hx, hy, ?_⟩
    split at h
    next => cases h
    next h1 => exact Or.inl h1
    next h1 =>
      split at h
      next => cases h
      next h2 => exact Or.inr ⟨h1, h2⟩
      next => cases h
  next => cases h

theorem agree_eq_some_iff {xf yf : Dict Str Feat} (l : List Str) (m m' : Dict Feat Feat) :
    agree xf yf l m = .ok (some m') ↔
      (∀ v ∈ l, Passes xf yf v) ∧ m' = setAll m (l.filterMap (C14.assignment xf yf)) := by
  induction l generalizing m with
  | nil => simp [agree, eq_comm]
  | cons v vs ih =>
    have e : setAll m ((v :: vs).filterMap (C14.assignment xf yf)) =
        setAll (setAll m (C14.assignment xf yf v).toList) (vs.filterMap (C14.assignment xf yf)) := by
      rw [List.filterMap_cons]; cases C14.assignment xf yf v <;> rfl
    rw [List.forall_mem_cons, and_assoc, e, ← ih]
    constructor
    · intro h
      have hp := passes_of_agree_cons h
      exact ⟨hp, by rwa [agree_cons_of_passes hp] at h⟩
    · rintro ⟨hp, h⟩
      rwa [agree_cons_of_passes hp]

theorem assignment_spec {xf yf : Dict Str Feat} {v : Str} {a : Feat × Feat}
    (h : C14.assignment xf yf v = some a) : a.1.isVariable = true ∧
      ((Dict.get? xf v = some a.1 ∧ Dict.get? yf v = some a.2) ∨
       (Dict.get? yf v = some a.1 ∧ Dict.get? xf v = some a.2)) := by
  unfold C14.assignment at h
  split at h
  next fx fy hx hy =>
    split at h
    next =>
      split at h
      next hv => cases h; exact ⟨hv, Or.inl ⟨hx, hy⟩⟩
      next => cases h
    next =>
      split at h
      next =>
        split at h
        next hv => cases h; exact ⟨hv, Or.inr ⟨hy, hx⟩⟩
        next => cases h
      next => cases h
    next => cases h
  next => cases h

/-- every key of `l` has a feature on both sides, of one feature system: the loop cannot raise on
    `l` (`agree_total`) -/
def Visitable (xf yf : Dict Str Feat) (l : List Str) : Prop :=
  ∀ k ∈ l, ∃ fx fy, Dict.get? xf k = some fx ∧ Dict.get? yf k = some fy ∧ fx.isTri = fy.isTri

theorem agree_total {xf yf : Dict Str Feat} {l : List Str} (hv : Visitable xf yf l)
    (m : Dict Feat Feat) : ∃ r, agree xf yf l m = .ok r := by
  induction l generalizing m with
  | nil => exact ⟨_, rfl⟩
  | cons k l ih =>
    obtain ⟨fx, fy, hx, hy, hn⟩ := hv k List.mem_cons_self
    obtain ⟨b1, h1⟩ := unifies_total hn
    obtain ⟨b2, h2⟩ := unifies_total hn.symm
    have ih := fun m => ih (fun k' hk' => hv k' (List.mem_cons_of_mem _ hk')) m
    simp only [agree, hx, hy, h1, h2]
    cases b1
    · cases b2
      · exact ⟨_, rfl⟩
      · exact ih _
    · exact ih _

theorem passes_iff_compat {xf yf : Dict Str Feat} {v : Str} {fx fy : Feat}
    (hx : Dict.get? xf v = some fx) (hy : Dict.get? yf v = some fy) (hn : fx.isTri = fy.isTri) :
    Passes xf yf v ↔ Compat fx fy := by
  obtain ⟨b1, h1⟩ := unifies_total hn
  rw [compat_iff hn, h1]
  constructor
  · rintro ⟨fx', fy', hx', hy', h⟩
    cases hx.symm.trans hx'; cases hy.symm.trans hy'
    rw [h1] at h
    exact h.imp id (·.2)
  · intro h
    refine ⟨fx, fy, hx, hy, ?_⟩
    rw [h1]
    cases b1
    · exact Or.inr ⟨rfl, h.resolve_left (by simp)⟩
    · exact Or.inl rfl

theorem passes_all_iff {xf yf : Dict Str Feat} {l : List Str} (hv : Visitable xf yf l) :
    (∀ v ∈ l, Passes xf yf v) ↔
      ∀ k ∈ l, ∀ fx fy, Dict.get? xf k = some fx → Dict.get? yf k = some fy → Compat fx fy := by
  refine forall_congr' fun k => forall_congr' fun hk => ?_
  obtain ⟨fx, fy, hx, hy, hn⟩ := hv k hk
  rw [passes_iff_compat hx hy hn]
  exact ⟨fun h fx' fy' hx' hy' => by cases hx.symm.trans hx'; cases hy.symm.trans hy'; exact h,
    fun h => h fx fy hx hy⟩

/-- every entry of `m` sends a variable feature to a feature of `pool`: what `subst m` does to a
    category is then `InstanceOf pool` (`instanceOf_subst`) -/
def MapOK (pool : List Feat) (m : Dict Feat Feat) : Prop :=
  ∀ f g, Dict.get? m f = some g → f.isVariable = true ∧ g ∈ pool

theorem xorEq_subst (m : Dict Feat Feat) (c : Cat) : Cat.xorEq (subst m c) c = true := by
  induction c with
  | atom b f =>
    simp only [subst]
    split <;> simp [Cat.xorEq]
  | fn l s r ihl ihr => simp [subst, Cat.xorEq, ihl, ihr]

theorem instanceOf_subst {pool : List Feat} {m : Dict Feat Feat} (hm : MapOK pool m) (c : Cat) :
    InstanceOf pool (subst m c) c := by
  induction c with
  | atom b f =>
    simp only [subst]
    split
    next g hg => exact ⟨rfl, Or.inr (hm f g hg)⟩
    next => exact ⟨rfl, Or.inl rfl⟩
  | fn l s r ihl ihr => exact ⟨ihl, rfl, ihr⟩

theorem instanceOf_refl {pool : List Feat} (c : Cat) : InstanceOf pool c c := by
  induction c with
  | atom b f => exact ⟨rfl, Or.inl rfl⟩
  | fn l s r ihl ihr => exact ⟨ihl, rfl, ihr⟩

theorem instanceOf_eq {pool : List Feat} {r t : Cat} (h : InstanceOf pool r t)
    (hv : ∀ f ∈ feats t, f.isVariable = false) : r = t := by
  induction r generalizing t with
  | atom b f =>
    cases t with
    | atom b' f' =>
      obtain ⟨hb, h | h⟩ := h
      · rw [hb, h]
      · rw [hv f' (List.mem_singleton_self _)] at h
        cases h.1
    | fn => exact h.elim
  | fn l s r ihl ihr =>
    cases t with
    | atom => exact h.elim
    | fn l' s' r' =>
      obtain ⟨h1, h2, h3⟩ := h
      rw [ihl h1 fun f hf => hv f (List.mem_append_left _ hf), h2,
        ihr h3 fun f hf => hv f (List.mem_append_right _ hf)]

theorem mem_sharedVars {xf yf : Dict Str Feat} {k : Str} :
    k ∈ sharedVars xf yf ↔
      (∃ fx, Dict.get? xf k = some fx) ∧ (∃ fy, Dict.get? yf k = some fy) := by
  unfold sharedVars
  rw [List.mem_filter, mem_keys_iff]
  simp only [Dict.contains, Option.isSome_iff_exists]

/-- the features the scan of `x` wrote -/
abbrev xfOf (px x : Cat) : Dict Str Feat := setAll [] (writes px x)

/-- the variables the loop visits -/
abbrev sharedOf (px py x y : Cat) : List Str := sharedVars (xfOf px x) (xfOf py y)

/-- the categories the variables stand for (`self.cats`): the second pattern's match overwrites the
    first's -/
def parts (px py x y : Cat) : Dict Str Cat := setAll (setAll [] (matched px x)) (matched py y)

theorem writes_values {p t : Cat} {k : Str} {f : Feat}
    (h : Dict.get? (xfOf p t) k = some f) : f ∈ feats t :=
  forall_get?_setAll (P := fun _ f => f ∈ feats t) (fun _ _ h => by cases h)
    (fun _ he => mem_writes_feats he) k f h

theorem visitable_writes {x y : Cat} (sk : SameKind x y) (px py : Cat) :
    Visitable (xfOf px x) (xfOf py y) (sharedOf px py x y) := by
  obtain ⟨kd, hk⟩ := sameKind_iff.1 sk
  intro k hk'
  obtain ⟨⟨fx, hfx⟩, ⟨fy, hfy⟩⟩ := mem_sharedVars.1 hk'
  exact ⟨fx, fy, hfx, hfy, (hk fx (List.mem_append_left _ (writes_values hfx))).trans
    (hk fy (List.mem_append_right _ (writes_values hfy))).symm⟩

theorem unifyOrd_eq (ord : List Str → List Str) (px py x y : Cat) :
    unifyOrd ord px py x y =
      if (scan px x [] []).1 = true ∧ (scan py y (setAll [] (matched px x)) []).1 = true then
        match agree (xfOf px x) (xfOf py y) (ord (sharedOf px py x y)) [] with
        | .error e => .error e
        | .ok none => .ok none
        | .ok (some m) => .ok (some ⟨parts px py x y, m⟩)
      else .ok none := by
  unfold unifyOrd
  rcases h1 : scan px x [] [] with ⟨b1, cats1, xf⟩
  cases b1
  · simp
  · obtain ⟨-, rfl, rfl⟩ := scan_ok h1
    dsimp only
    rcases h2 : scan py y (setAll [] (matched px x)) [] with ⟨b2, cats2, yf⟩
    cases b2
    · simp
    · obtain ⟨-, rfl, rfl⟩ := scan_ok h2
      rfl

theorem unifyOrd_spec (ord : List Str → List Str) (px py x y : Cat) (σ : Bindings) :
    unifyOrd ord px py x y = .ok (some σ) ↔
      ((scan px x [] []).1 = true ∧ (scan py y (setAll [] (matched px x)) []).1 = true) ∧
      (∀ v ∈ ord (sharedOf px py x y), Passes (xfOf px x) (xfOf py y) v) ∧
      σ = ⟨parts px py x y, setAll [] ((ord (sharedOf px py x y)).filterMap
        (C14.assignment (xfOf px x) (xfOf py y)))⟩ := by
  obtain ⟨c, m⟩ := σ
  rw [unifyOrd_eq]
  by_cases h : (scan px x [] []).1 = true ∧ (scan py y (setAll [] (matched px x)) []).1 = true
  · rw [if_pos h, and_iff_right h, Bindings.mk.injEq, and_left_comm, ← agree_eq_some_iff]
    unfold sharedOf xfOf parts
    generalize agree _ _ _ _ = r
    rcases r with e | _ | m'
    · simp
    · simp
    · simp only [Except.ok.injEq, Option.some.injEq, Bindings.mk.injEq]
      exact ⟨fun h => ⟨h.1.symm, h.2⟩, fun h => ⟨h.1.symm, h.2⟩⟩
  · rw [if_neg h]
    exact iff_of_false (fun h => by cases h) fun h' => h h'.1

theorem unifyOrd_succeeds_iff {ord : List Str → List Str} (hord : ∀ l, (ord l).Perm l)
    (px py x y : Cat) :
    (∃ σ, unifyOrd ord px py x y = .ok (some σ)) ↔
      ((scan px x [] []).1 = true ∧ (scan py y (setAll [] (matched px x)) []).1 = true) ∧
      ∀ v ∈ sharedOf px py x y, Passes (xfOf px x) (xfOf py y) v := by
  simp only [unifyOrd_spec, exists_and_left, exists_eq, and_true, (hord _).mem_iff]

theorem mapping_entries {ord : List Str → List Str} {px py x y : Cat} {σ : Bindings}
    (h : unifyOrd ord px py x y = .ok (some σ)) {f g : Feat} (hg : Dict.get? σ.mapping f = some g) :
    f.isVariable = true ∧ ∃ k,
      (Dict.get? (xfOf px x) k = some f ∧ Dict.get? (xfOf py y) k = some g) ∨
      (Dict.get? (xfOf py y) k = some f ∧ Dict.get? (xfOf px x) k = some g) := by
  obtain ⟨-, -, rfl⟩ := (unifyOrd_spec ..).1 h
  obtain ⟨k, -, ha⟩ := List.mem_filterMap.1 ((get?_setAll_sub hg).resolve_right nofun)
  exact ⟨(assignment_spec ha).1, k, (assignment_spec ha).2⟩

theorem unify_mapOK {px py x y : Cat} {σ : Bindings} (h : unify px py x y = .ok (some σ)) :
    MapOK (feats x ++ feats y) σ.mapping := fun _ _ hg =>
  have ⟨hv, _, hk⟩ := mapping_entries h hg
  ⟨hv, hk.elim (fun e => List.mem_append_right _ (writes_values e.2))
    fun e => List.mem_append_left _ (writes_values e.2)⟩

theorem varsOK_key {px py : Cat} (vx : VarsOK px) (vy : VarsOK py) {v v' s s' : Str}
    (hv : v ∈ vars px) (hv' : v' ∈ vars py) (h : v ++ s = v' ++ s') : v = v' := by
  obtain ⟨c, rfl, _⟩ := vx v hv
  obtain ⟨c', rfl, _⟩ := vy v' hv'
  rw [(List.cons.inj h).1]

theorem writes_functional {p : Cat} (hl : Linear p) (hv : VarsOK p) (t : Cat) :
    Functional (writes p t) := by
  intro k f f' h1 h2
  obtain ⟨v, t1, hm1, ha1⟩ := mem_writes.1 h1
  obtain ⟨v', t2, hm2, ha2⟩ := mem_writes.1 h2
  obtain ⟨s, hs⟩ := atomW_key ha1
  obtain ⟨s', hs'⟩ := atomW_key ha2
  cases varsOK_key hv hv (mem_matched_vars hm1) (mem_matched_vars hm2) (hs.symm.trans hs')
  cases matched_functional hl t v t1 t2 hm1 hm2
  exact atomW_functional v t1 k f f' ha1 ha2

/-- what a successful scan under a linear pattern with single-letter variables wrote, read back -/
theorem get?_xfOf {p : Cat} (hl : Linear p) (hv : VarsOK p) {t : Cat} {k : Str} {f : Feat} :
    Dict.get? (xfOf p t) k = some f ↔ (k, f) ∈ writes p t :=
  get?_setAll_nil (writes_functional hl hv t) k f

theorem allCompat_iff {l1 l2 : List Feat} :
    AllCompat l1 l2 ↔ l1.length = l2.length ∧
      ∀ (j : Nat) (f g : Feat), l1[j]? = some f → l2[j]? = some g → Compat f g := by
  induction l1 generalizing l2 with
  | nil => cases l2 <;> simp [AllCompat]
  | cons f fs ih =>
    cases l2 with
    | nil => simp [AllCompat]
    | cons g gs =>
      simp only [AllCompat, ih, List.length_cons, Nat.add_right_cancel_iff]
      constructor
      · rintro ⟨hc, hl, h⟩
        refine ⟨hl, fun j f' g' hf hg => ?_⟩
        cases j with
        | zero => cases hf; cases hg; exact hc
        | succ j => exact h j f' g' hf hg
      · rintro ⟨hl, h⟩
        exact ⟨h 0 f g rfl rfl, hl, fun j f' g' hf hg => h (j + 1) f' g' hf hg⟩

theorem xorEq_feats_length {a b : Cat} (h : Cat.xorEq a b = true) :
    (feats a).length = (feats b).length := by
  have len : ∀ c, (feats (C13.blind c)).length = (feats c).length := fun c => by
    induction c with
    | atom => rfl
    | fn l s r ihl ihr => simp only [C13.blind, feats, List.length_append, ihl, ihr]
  rw [← len a, (C13.xorEq_iff_blind a b).1 h, len b]

theorem featCompat_iff {px py x y : Cat} (vx : VarsOK px) (vy : VarsOK py)
    (hb : SharedBlind px py x y) :
    (∀ k fx fy, (k, fx) ∈ writes px x → (k, fy) ∈ writes py y → Compat fx fy) ↔
      FeatCompat px py x y := by
  constructor
  · intro h v tx ty hx hy
    have hxe := hb v tx ty hx hy
    refine allCompat_iff.2 ⟨(xorEq_feats_length hxe).symm, fun j f g hf hg => ?_⟩
    exact h (keyOf v tx j) f g (mem_writes.2 ⟨v, _, hx, mem_atomW.2 ⟨j, hf, rfl⟩⟩)
      (mem_writes.2 ⟨v, _, hy, mem_atomW.2 ⟨j, hg, (keyOf_congr hxe v j).symm⟩⟩)
  · intro h k fx fy hkx hky
    obtain ⟨v, tx, hx, hax⟩ := mem_writes.1 hkx
    obtain ⟨v', ty, hy, hay⟩ := mem_writes.1 hky
    obtain ⟨j, hj, rfl⟩ := mem_atomW.1 hax
    obtain ⟨j', hj', hk'⟩ := mem_atomW.1 hay
    obtain ⟨s, hs⟩ := keyOf_prefix v tx j
    obtain ⟨s', hs'⟩ := keyOf_prefix v' ty j'
    cases varsOK_key vx vy (mem_matched_vars hx) (mem_matched_vars hy)
      (hs.symm.trans (hk'.trans hs'))
    have hxe := hb v tx ty hx hy
    obtain ⟨hlen, hc⟩ := allCompat_iff.1 (h v tx ty hx hy)
    rw [keyOf_congr hxe] at hk'
    cases keyOf_inj hk' (List.getElem?_eq_some_iff.1 hj).1
      (hlen ▸ (List.getElem?_eq_some_iff.1 hj').1)
    exact hc j fx fy hj hj'

theorem bindings_get_eq {ord : List Str → List Str} {px py x y : Cat} {σ : Bindings}
    (h : unifyOrd ord px py x y = .ok (some σ)) (v : Str) :
    σ.get v = match Dict.get? (parts px py x y) v with
      | some c => .ok (subst σ.mapping c)
      | none => .error .keyError := by
  obtain ⟨-, -, rfl⟩ := (unifyOrd_spec ..).1 h
  rfl

theorem parts_sub {px py x y : Cat} {v : Str} {c : Cat}
    (h : Dict.get? (parts px py x y) v = some c) : (v, c) ∈ matched px x ∨ (v, c) ∈ matched py y := by
  rcases get?_setAll_sub h with h' | h'
  · exact .inr h'
  · exact .inl ((get?_setAll_sub h').resolve_right nofun)

theorem parts_isSome {px py x y : Cat} (sx : Shape px x) (sy : Shape py y) (v : Str) :
    (∃ c, Dict.get? (parts px py x y) v = some c) ↔ v ∈ vars px ++ vars py := by
  constructor
  · rintro ⟨c, hc⟩
    exact List.mem_append.2 ((parts_sub hc).imp mem_matched_vars mem_matched_vars)
  · intro hv
    refine get?_setAll_isSome ?_
    rcases List.mem_append.1 hv with hv | hv
    · exact Or.inr (get?_setAll_isSome (Or.inl (matched_of_shape sx hv)))
    · exact Or.inl (matched_of_shape sy hv)

theorem lastMatched_eq (px py x y : Cat) (v : Str) :
    lastMatched px py x y v =
      match Dict.get? (matched py y) v with
      | some c => some c
      | none => Dict.get? (matched px x) v := by
  unfold lastMatched
  rw [get?_eq_find?, get?_eq_find?]
  cases List.find? (fun p => p.1 == v) (matched py y) <;> rfl

theorem parts_eq {px py : Cat} (lx : Linear px) (ly : Linear py) (x y : Cat) (v : Str) :
    Dict.get? (parts px py x y) v = lastMatched px py x y v := by
  have fmx := matched_functional lx x
  have fmy := matched_functional ly y
  rw [lastMatched_eq]
  apply Option.ext
  intro c
  rw [parts, get?_setAll fmy, get?_setAll_nil fmx]
  cases hy : Dict.get? (matched py y) v with
  | some c' =>
    have hm := mem_of_get? hy
    exact ⟨fun h => h.elim (fun h => by rw [fmy v c c' h hm]) fun h => absurd hm (h.1 c'),
      fun h => Or.inl (Option.some.inj h ▸ hm)⟩
  | none =>
    have hn := get?_eq_none_iff.1 hy
    exact ⟨fun h => h.elim (fun h => absurd h (hn c)) fun h => fmx.get?_iff.2 h.2,
      fun h => Or.inr ⟨hn, fmx.get?_iff.1 h⟩⟩

theorem unify_shapes {px py x y : Cat} {σ : Bindings} (h : unify px py x y = .ok (some σ)) :
    Shape px x ∧ Shape py y :=
  ⟨scan_shape ((unifyOrd_spec ..).1 h).1.1, scan_shape ((unifyOrd_spec ..).1 h).1.2⟩

theorem unify_binds {px py x y : Cat} {σ : Bindings} (h : unify px py x y = .ok (some σ)) :
    ∀ v ∈ vars px ++ vars py, ∃ c, σ.get v = .ok c := by
  obtain ⟨sx, sy⟩ := unify_shapes h
  intro v hv
  obtain ⟨c, hc⟩ := (parts_isSome sx sy v).2 hv
  exact ⟨_, by rw [bindings_get_eq h, hc]⟩

theorem binding_subst {px py x y : Cat} {σ : Bindings} (lx : Linear px) (ly : Linear py)
    (h : unify px py x y = .ok (some σ)) {v : Str} (hv : v ∈ vars px ++ vars py) :
    ∃ c, lastMatched px py x y v = some c ∧ σ.get v = .ok (subst σ.mapping c) ∧
      MapOK (feats x ++ feats y) σ.mapping := by
  obtain ⟨sx, sy⟩ := unify_shapes h
  obtain ⟨c, hc⟩ := (parts_isSome sx sy v).2 hv
  exact ⟨c, by rw [← parts_eq lx ly, hc], by rw [bindings_get_eq h, hc], unify_mapOK h⟩

theorem binding_instance {px py x y : Cat} {σ : Bindings} (h : unify px py x y = .ok (some σ))
    {k : Str} {b : Cat} (hg : σ.get k = .ok b) :
    ∃ c, ((k, c) ∈ matched px x ∨ (k, c) ∈ matched py y) ∧
      InstanceOf (feats x ++ feats y) b c := by
  rw [bindings_get_eq h] at hg
  cases hk : Dict.get? (parts px py x y) k with
  | none => rw [hk] at hg; cases hg
  | some c =>
    rw [hk] at hg
    cases hg
    exact ⟨c, parts_sub hk, instanceOf_subst (unify_mapOK h) c⟩

end Depccg.C06
