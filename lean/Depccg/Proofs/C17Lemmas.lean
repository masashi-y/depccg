/-
  `catIndexAux` by an invariant of its accumulator (the last index wins); the
  filter row by row: row `i` of `filterRows` is `filteredRow … i`, a closed form, of which
  `maskRow_getD` and `maskRow_length` give the entries and the length; the Boolean well-formedness
  tests imply the propositions of C05.
-/
import Depccg.Props.C17Defs
import Depccg.Props.C13

namespace Depccg.C17
open Depccg Cat Str Glue

theorem plainTokB_sound {s : Str} (h : plainTokB s = true) : C05.PlainTok s := by
  simp only [plainTokB, Bool.and_eq_true, Bool.not_eq_true', List.all_eq_true] at h
  refine ⟨?_, h.2⟩
  intro hs
  subst hs
  simp at h

theorem triPartB_sound {s : Str} (h : triPartB s = true) : C05.TriPart s := by
  simp only [triPartB, List.all_eq_true, Bool.and_eq_true, bne_iff_ne] at h
  intro c hc
  exact ⟨(h c hc).1.1, (h c hc).1.2, (h c hc).2⟩

theorem wfFeatB_sound {f : Feat} (h : wfFeatB f = true) : C05.WFFeat f := by
  cases f with
  | un o =>
    cases o with
    | none => trivial
    | some v =>
      simp only [wfFeatB, Bool.and_eq_true, Bool.not_eq_true'] at h
      refine ⟨plainTokB_sound h.1, ?_⟩
      intro hh
      have h2 := h.2
      rw [hh.1, hh.2] at h2
      simp at h2
  | tri k1 v1 k2 v2 k3 v3 =>
    simp only [wfFeatB, Bool.and_eq_true] at h
    exact ⟨triPartB_sound h.1.1.1.1.1, triPartB_sound h.1.1.1.1.2, triPartB_sound h.1.1.1.2,
      triPartB_sound h.1.1.2, triPartB_sound h.1.2, triPartB_sound h.2⟩

theorem wfB_sound_aux (c : Cat) (h : wfB c = true) : C05.WF c := by
  induction c with
  | atom b f =>
    simp only [wfB, Bool.and_eq_true, Bool.or_eq_true, Bool.not_eq_true', beq_iff_eq] at h
    refine ⟨plainTokB_sound h.1.1, wfFeatB_sound h.1.2, ?_⟩
    intro hb
    rcases h.2 with h2 | h2
    · rw [List.elem_eq_mem] at h2
      simp [hb] at h2
    · exact h2
  | fn l s r ihl ihr =>
    simp only [wfB, Bool.and_eq_true] at h
    exact ⟨ihl h.1.1, h.1.2, ihr h.2⟩

theorem catIndexAux_some (c : Cat) :
    ∀ (xs : List Cat) (k : Nat) (acc : Option Nat) (i : Nat),
      catIndexAux c k xs acc = some i → acc = some i ∨ (k ≤ i ∧ xs[i - k]? = some c) := by
  intro xs
  induction xs with
  | nil => intro k acc i h; exact Or.inl h
  | cons x xs ih =>
    intro k acc i h
    simp only [catIndexAux, C13.pyEq_decide, decide_eq_true_eq] at h
    rcases ih _ _ _ h with h1 | ⟨h1, h2⟩
    · by_cases hx : x = c
      · rw [if_pos hx] at h1
        have hk : k = i := Option.some.inj h1
        subst hk
        right
        refine ⟨Nat.le_refl _, ?_⟩
        rw [Nat.sub_self, hx]
        rfl
      · rw [if_neg hx] at h1
        exact Or.inl h1
    · right
      refine ⟨Nat.le_of_succ_le h1, ?_⟩
      have : i - k = (i - (k + 1)) + 1 := by omega
      rw [this, List.getElem?_cons_succ]
      exact h2

theorem catIndexAux_exists (c : Cat) :
    ∀ (xs : List Cat) (k : Nat) (acc : Option Nat),
      (∃ i, catIndexAux c k xs acc = some i) ↔ ((∃ i, acc = some i) ∨ c ∈ xs) := by
  intro xs
  induction xs with
  | nil => intro k acc; simp [catIndexAux]
  | cons x xs ih =>
    intro k acc
    simp only [catIndexAux, C13.pyEq_decide, decide_eq_true_eq]
    rw [ih]
    by_cases hx : x = c
    · rw [if_pos hx]
      constructor
      · intro _; right; rw [hx]; exact List.mem_cons_self
      · intro _; left; exact ⟨k, rfl⟩
    · rw [if_neg hx]
      simp [List.mem_cons, Ne.symm hx]

theorem catIndex_some {cats : List Cat} {c : Cat} {i : Nat} (h : catIndex cats c = some i) :
    cats[i]? = some c := by
  rcases catIndexAux_some c cats 0 none i h with h1 | ⟨_, h2⟩
  · cases h1
  · simpa using h2

theorem catIndex_exists (cats : List Cat) (c : Cat) :
    (∃ i, catIndex cats c = some i) ↔ c ∈ cats := by
  unfold catIndex
  rw [catIndexAux_exists]
  simp

theorem binarize_length (indices : List Nat) (n : Nat) : (binarize indices n).length = n := by
  simp [binarize]

theorem binarize_getD (indices : List Nat) (n c : Nat) (h : c < n) :
    (binarize indices n).getD c false = !(indices.elem c) := by
  simp [binarize, List.getD, h]

theorem resolve_ok_iff (cats : List Cat) (cs : List Cat) :
    (∃ is, resolve cats cs = .ok is) ↔ ∀ c ∈ cs, ∃ i, catIndex cats c = some i := by
  induction cs with
  | nil => simp [resolve]
  | cons c cs ih =>
    simp only [resolve, List.mem_cons, forall_eq_or_imp]
    rw [← ih]
    cases hc : catIndex cats c with
    | none => simp
    | some i =>
      cases hr : resolve cats cs with
      | error e => simp
      | ok is => simp

theorem buildMasks_ok_iff (cats : List Cat) (n : Nat) (dict : List (Str × List Cat)) :
    (∃ ms, buildMasks cats n dict = .ok ms) ↔
      ∀ wc ∈ dict, ∀ c ∈ wc.2, ∃ i, catIndex cats c = some i := by
  induction dict with
  | nil => simp [buildMasks]
  | cons wc rest ih =>
    obtain ⟨w, cs⟩ := wc
    simp only [buildMasks, List.mem_cons, forall_eq_or_imp]
    rw [← ih, ← resolve_ok_iff]
    cases hr : resolve cats cs with
    | error e => simp
    | ok is =>
      cases hb : buildMasks cats n rest with
      | error e => simp
      | ok ms => simp

theorem maskRow_length (big : Int) :
    ∀ (row : List Int) (m : List Bool), (maskRow big row m).length = row.length := by
  intro row
  induction row with
  | nil => intro m; simp [maskRow]
  | cons x xs ih =>
    intro m
    cases m with
    | nil => simp [maskRow]
    | cons b ms => simp [maskRow, ih]

theorem maskRow_getD (big : Int) :
    ∀ (row : List Int) (m : List Bool) (c : Nat),
      (maskRow big row m).getD c 0 =
        if m.getD c false = true ∧ c < row.length then big else row.getD c 0 := by
  intro row
  induction row with
  | nil => intro m c; simp [maskRow]
  | cons x xs ih =>
    intro m c
    cases m with
    | nil => simp [maskRow]
    | cons b ms =>
      cases c with
      | zero =>
        cases b <;> simp [maskRow]
      | succ c =>
        simp only [maskRow, List.getD_cons_succ, List.length_cons, Nat.add_lt_add_iff_right]
        exact ih ms c

theorem filterRows_length (masks : List (Str × List Bool)) (big : Int) :
    ∀ (words : List Str) (rows : List (List Int)),
      (filterRows masks big words rows).length = rows.length := by
  intro words
  induction words with
  | nil => intro rows; simp [filterRows]
  | cons w ws ih =>
    intro rows
    cases rows with
    | nil => simp [filterRows]
    | cons r rs => simp [filterRows, ih]

/-- row `i` of the filtered matrix in closed form: masked when word `i` exists and has a mask -/
def filteredRow (masks : List (Str × List Bool)) (big : Int) (words : List Str)
    (rows : List (List Int)) (i : Nat) : List Int :=
  match words[i]? with
  | none => getRow rows i
  | some w =>
    match lookupMask masks w with
    | none => getRow rows i
    | some m => maskRow big (getRow rows i) m

theorem filterRows_getRow (masks : List (Str × List Bool)) (big : Int) :
    ∀ (words : List Str) (rows : List (List Int)) (i : Nat),
      getRow (filterRows masks big words rows) i = filteredRow masks big words rows i := by
  intro words
  induction words with
  | nil => intro rows i; simp [filterRows, filteredRow]
  | cons w ws ih =>
    intro rows i
    cases rows with
    | nil =>
      simp only [filterRows, filteredRow, getRow, List.getD_nil]
      split
      · rfl
      · split
        · rfl
        · simp [maskRow]
    | cons r rs =>
      cases i with
      | zero =>
        simp only [filterRows, filteredRow, getRow, List.getD_cons_zero, List.getElem?_cons_zero]
        cases lookupMask masks w <;> rfl
      | succ i =>
        have := ih rs i
        simp only [getRow, filteredRow] at this
        simp only [filterRows, filteredRow, getRow, List.getD_cons_succ, List.getElem?_cons_succ]
        exact this

theorem filteredRow_length (masks : List (Str × List Bool)) (big : Int) (words : List Str)
    (rows : List (List Int)) (i : Nat) :
    (filteredRow masks big words rows i).length = (getRow rows i).length := by
  unfold filteredRow
  split
  · rfl
  · split
    · rfl
    · exact maskRow_length _ _ _

end Depccg.C17
