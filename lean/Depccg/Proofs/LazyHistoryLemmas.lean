/-
  Lemmas for `LazyHistoryIndependentStatement` / `BatchEqMapSoloStatement`.

  Under a numbering `U` of categories (a duplicate-free list, id = position) the rule functions
  determine a complete cache `tablesN G U` and its id-level view `grammarN G U`. One lazy run, from
  a state that satisfies the glue invariant, is specified by them under every numbering that
  extends its final table (`lz_run_spec`): its outcome is the plain search over `grammarN G U`
  (`lz_run_grammarN`), and its final cache, being a part of `tablesN G U`, decodes the results as
  `tablesN G U` does (`retrieve_tablesN`). Two numberings of the same categories differ by the
  injective renumbering `lhSig`, and the complete cache of the second is that of the first with the
  ids renamed, row by row (`tablesN_un_rename`, `tablesN_bin_rename`): so the two grammars are
  renamings of each other (`renamed_grammarN`), the plain search commutes with that (C11,
  `runWith_rename`), and the two complete caches decode renamed derivations to the same tree
  (`retrieve_rename`). Two lazy runs of one sentence from two states with different histories are
  compared through their specifications (`lh_sentence_sim`); no lemma speaks of two caches.
-/
import Depccg.Proofs.C11Lemmas
import Depccg.Proofs.LazySentenceLemmas
import Depccg.Proofs.CompleteCacheLemmas
import Depccg.Props.Lazy

namespace Depccg.LazyProps
open Depccg Search SearchProps GlueTree GlueRun Lazy GlueRunProps
open Depccg.C11 (renameItem renameDeriv renameRule)

/-- the position in `U'` of the category at position `i` of `U`; positions beyond `U` go beyond `U'` -/
def lhSig (U U' : List Cat) (i : Nat) : Nat :=
  match U[i]? with
  | some c => U'.idxOf c
  | none => U'.length + (i - U.length)

section Sig
variable {U U' : List Cat}

theorem lhSig_some {i : Nat} {c : Cat} (h : U[i]? = some c) : lhSig U U' i = U'.idxOf c := by
  simp only [lhSig, h]

theorem lhSig_get (hmem : ∀ c, c ∈ U ↔ c ∈ U') {i : Nat} {c : Cat} (h : U[i]? = some c) :
    U'[lhSig U U' i]? = some c := by
  rw [lhSig_some h]
  exact gr_get_idxOf ((hmem c).1 (List.mem_of_getElem? h))

theorem lhSig_none {i : Nat} (h : U[i]? = none) : U'[lhSig U U' i]? = none := by
  simp only [lhSig, h]
  exact List.getElem?_eq_none_iff.2 (Nat.le_add_right _ _)

theorem lhSig_idxOf (hmem : ∀ c, c ∈ U ↔ c ∈ U') (c : Cat) : lhSig U U' (U.idxOf c) = U'.idxOf c := by
  by_cases hc : c ∈ U
  · exact lhSig_some (gr_get_idxOf hc)
  · rw [List.idxOf_eq_length hc, List.idxOf_eq_length (mt (hmem c).2 hc)]
    simp only [lhSig, List.getElem?_eq_none_iff.2 (Nat.le_refl _), Nat.sub_self, Nat.add_zero]

theorem lhSig_inj (hU : U.Nodup) (hmem : ∀ c, c ∈ U ↔ c ∈ U') (a b : Nat)
    (hab : lhSig U U' a = lhSig U U' b) : a = b := by
  cases ha : U[a]? with
  | some ca =>
    have ga := lhSig_get hmem ha
    cases hb : U[b]? with
    | some cb =>
      have gb := lhSig_get hmem hb
      rw [hab, gb] at ga
      cases ga
      exact nodup_getElem?_inj hU ha hb
    | none => rw [hab, lhSig_none hb] at ga; cases ga
  | none =>
    have ga := lhSig_none (U' := U') ha
    cases hb : U[b]? with
    | some cb => rw [hab, lhSig_get hmem hb] at ga; cases ga
    | none =>
      simp only [lhSig, ha, hb] at hab
      have := List.getElem?_eq_none_iff.1 ha
      have := List.getElem?_eq_none_iff.1 hb
      omega

theorem lhSig_fix (hU' : U'.Nodup) {P : List Cat} (hP : P <+: U) (hP' : P <+: U') {i : Nat}
    (hi : i < P.length) : lhSig U U' i = i := by
  rw [lhSig_some (gr_prefix_get hP (List.getElem?_eq_getElem hi))]
  exact idxOf_of_get hU' hP' (List.getElem?_eq_getElem hi)

theorem lhSig_get? (hmem : ∀ c, c ∈ U ↔ c ∈ U') (i : Nat) : U'[lhSig U U' i]? = U[i]? := by
  cases h : U[i]? with
  | none => exact lhSig_none h
  | some c => exact lhSig_get hmem h

def renameEntry (σ : Nat → Nat) (e : CacheEntry) : CacheEntry := { e with catId := σ e.catId }

theorem entryN_rename (hmem : ∀ c, c ∈ U ↔ c ∈ U') :
    entryN U' = renameEntry (lhSig U U') ∘ entryN U :=
  funext fun r => by simp only [Function.comp, entryN, renameEntry, lhSig_idxOf hmem]

theorem tablesN_un_rename (G : GlueRun.CatGrammar) (hmem : ∀ c, c ∈ U ↔ c ∈ U') (x : Nat) :
    (tablesN G U').un (lhSig U U' x) = ((tablesN G U).un x).map (renameEntry (lhSig U U')) := by
  cases hx : U[x]? with
  | none => rw [tablesN_un_none hx, tablesN_un_none (lhSig_none hx)]; rfl
  | some cx =>
    rw [tablesN_un hx, tablesN_un (lhSig_get hmem hx), List.map_map, entryN_rename hmem]

theorem tablesN_bin_rename (G : GlueRun.CatGrammar) (hmem : ∀ c, c ∈ U ↔ c ∈ U') (x y : Nat) :
    (tablesN G U').bin (lhSig U U' x) (lhSig U U' y)
      = ((tablesN G U).bin x y).map (renameEntry (lhSig U U')) := by
  cases hx : U[x]? with
  | none => rw [tablesN_bin_none (.inl hx), tablesN_bin_none (.inl (lhSig_none hx))]; rfl
  | some cx =>
    cases hy : U[y]? with
    | none => rw [tablesN_bin_none (.inr hy), tablesN_bin_none (.inr (lhSig_none hy))]; rfl
    | some cy =>
      rw [tablesN_bin hx hy, tablesN_bin (lhSig_get hmem hx) (lhSig_get hmem hy), List.map_map,
        entryN_rename hmem]

end Sig

theorem lh_roots_fixed {σ : Nat → Nat} (hinj : ∀ a b, σ a = σ b → a = b) {n : Nat}
    (hfix : ∀ i, i < n → σ i = i) (roots : List Nat) (hroot : ∀ r ∈ roots, r < n) (c : Nat) :
    roots.elem (σ c) = roots.elem c := by
  have : σ c ∈ roots ↔ c ∈ roots :=
    ⟨fun h => hinj _ _ (hfix _ (hroot _ h)) ▸ h, fun h => (hfix _ (hroot _ h)).symm ▸ h⟩
  simp only [List.elem_eq_mem, this]

theorem renamed_grammarN (G : GlueRun.CatGrammar) {U U' : List Cat} (hU : U.Nodup) (hU' : U'.Nodup)
    (hmem : ∀ c, c ∈ U ↔ c ∈ U') {P : List Cat} (hP : P <+: U) (hP' : P <+: U') {s : Sent}
    (hlex : ∀ row ∈ s.tags, row.length ≤ P.length) (hroot : ∀ r ∈ s.roots, r < P.length) :
    C11.Renamed (lhSig U U') (grammarN G U) (grammarN G U') s s := by
  have hfix : ∀ i, i < P.length → lhSig U U' i = i := fun i hi => lhSig_fix hU' hP hP' hi
  refine ⟨lhSig_inj hU hmem, fun row hr c hc => hfix c (Nat.lt_of_lt_of_le hc (hlex row hr)),
    fun x y => ?_, fun x => ?_, rfl, rfl, rfl, rfl,
    lh_roots_fixed (lhSig_inj hU hmem) hfix s.roots hroot⟩
  · show ((tablesN G U').bin _ _).map _ = (((tablesN G U).bin x y).map _).map _
    rw [tablesN_bin_rename G hmem, List.map_map, List.map_map]
    rfl
  · show ((tablesN G U').un _).map _ = (((tablesN G U).un x).map _).map _
    rw [tablesN_un_rename G hmem, List.map_map, List.map_map]
    rfl

theorem lh_dcat_rename (σ : Nat → Nat) (d : Deriv) : dcat (renameDeriv σ d) = σ (dcat d) := by
  cases d <;> rfl

/-- decoding looks at the category of an id and at the labels and the head flag of an entry: tables
    that differ by a renaming of the ids decode renamed derivations to the same tree -/
theorem retrieve_rename {T T' : Tables} {σ : Nat → Nat} (hc : ∀ i, T'.cats (σ i) = T.cats i)
    (hu : ∀ x, T'.un (σ x) = (T.un x).map (renameEntry σ))
    (hb : ∀ x y, T'.bin (σ x) (σ y) = (T.bin x y).map (renameEntry σ)) (tokens : List Token) :
    ∀ d : Deriv, retrieve T' tokens (renameDeriv σ d) = retrieve T tokens d := by
  intro d
  induction d with
  | leaf tk c => simp only [renameDeriv, retrieve, hc]
  | un c rid d ih =>
    simp only [renameDeriv, retrieve, ih, dcatId_eq, lh_dcat_rename, hc, hu, List.getElem?_map]
    cases (T.un (dcat d))[rid]? <;> cases T.cats c <;> rfl
  | bin c rid hl l r ihl ihr =>
    simp only [renameDeriv, retrieve, ihl, ihr, dcatId_eq, lh_dcat_rename, hc, hb, List.getElem?_map]
    cases (T.bin (dcat l) (dcat r))[rid]? <;> cases T.cats c <;> rfl

/-! ### the trees of a sentence are a function of the rule functions and a numbering -/

def treesN (G : GlueRun.CatGrammar) (U : List Cat) (tokens : List Token) (rs : List Item) :
    Except Err (List (Tree × Int)) :=
  Cli.mapExcept (fun r => (retrieve (tablesN G U) tokens r.d).map fun t => (t, r.prio)) rs

theorem treesN_rename (G : GlueRun.CatGrammar) {U U' : List Cat} (hmem : ∀ c, c ∈ U ↔ c ∈ U')
    (tokens : List Token) (rs : List Item) :
    treesN G U' tokens (rs.map (renameItem (lhSig U U'))) = treesN G U tokens rs := by
  unfold treesN
  simp only [Cli.mapExcept_map, C11.renameItem_d, C11.renameItem_prio,
    retrieve_rename (lhSig_get? hmem) (tablesN_un_rename G hmem) (tablesN_bin_rename G hmem)]

theorem lz_run_spec {pick : Pick} {G : GlueRun.CatGrammar} {gst : GSt} {s : Sent} {cfg : Cfg}
    (tokens : List Token) (hp : PickOK pick) (hinv : Inv' G gst)
    (htags : ∀ row ∈ s.tags, row.length ≤ gst.cats.length) (hlen : tokens.length = s.n)
    {U : List Cat} (hU : U.Nodup) (hpre : (runLWith pick G gst s cfg).2.cats <+: U) :
    (runLWith pick G gst s cfg).1 = runWith pick (grammarN G U) s cfg ∧
    treesOf (runLWith pick G gst s cfg).2 tokens (runLWith pick G gst s cfg).1.results
      = treesN G U tokens (runWith pick (grammarN G U) s cfg).results := by
  have hrun := lz_run_grammarN hp hinv htags hU hpre
  refine ⟨hrun, ?_⟩
  -- the final cache decodes every result (`lazy_retrieve_total`), and what it decodes the complete
  -- cache decodes to the same tree
  obtain ⟨ts, hts⟩ := lazy_retrieve_total pick G gst s cfg tokens hp hinv hlen htags
  have ok := inv'_iff_cacheOK.1 (lz_run_inv pick s cfg hinv)
  rw [hts, ← hrun]
  rw [treesOf_eq_mapExcept] at hts
  refine (Cli.mapExcept_spec.2
    ((Cli.mapExcept_spec.1 hts).imp fun r _ p hrp => ?_)).symm
  obtain ⟨t, ht, rfl⟩ := Except.map_ok_inv hrp
  rw [retrieve_tablesN ok hpre tokens ht]
  rfl

/-- under an agenda that looks at priorities only, a sentence parsed from two states that satisfy
    the glue invariant and share the prefix `P` holding the lexical and the root ids gets the same
    result after the same number of steps: each run is specified under the numbering "its own final
    table, then what the other one has besides" -/
theorem lh_sentence_sim {pick : Pick} (hp : PickOK pick) (hn : PickNat pick) (G : GlueRun.CatGrammar)
    (P : List Cat) (gA gB : GSt) (rootIds : List Nat) (cfg : Cfg) (maxLength : Option Nat) (x : SentIn)
    (iA : Inv' G gA) (iB : Inv' G gB) (pA : P <+: gA.cats) (pB : P <+: gB.cats)
    (hlex : ∀ row ∈ x.tags, row.length ≤ P.length) (hroot : ∀ r ∈ rootIds, r < P.length) :
    (sentenceL pick G rootIds cfg maxLength gB x).1
      = (sentenceL pick G rootIds cfg maxLength gA x).1 ∧
    (sentenceL pick G rootIds cfg maxLength gB x).2.1.steps
      = (sentenceL pick G rootIds cfg maxLength gA x).2.1.steps := by
  rw [sentenceL_eq, sentenceL_eq]
  split
  · exact ⟨rfl, rfl⟩
  · have iFA := lz_run_inv pick (sentOf rootIds x) cfg iA
    have iFB := lz_run_inv pick (sentOf rootIds x) cfg iB
    have gA' := lz_run_cats_prefix pick G gA (sentOf rootIds x) cfg
    have gB' := lz_run_cats_prefix pick G gB (sentOf rootIds x) cfg
    -- each final table extended, by `addRoots`, with the categories of the other that it lacks
    have hmem : ∀ c, c ∈ (addRoots (runLWith pick G gA (sentOf rootIds x) cfg).2.cats
          (runLWith pick G gB (sentOf rootIds x) cfg).2.cats).1 ↔
        c ∈ (addRoots (runLWith pick G gB (sentOf rootIds x) cfg).2.cats
          (runLWith pick G gA (sentOf rootIds x) cfg).2.cats).1 := fun c => by
      rw [gr_addRoots_mem, gr_addRoots_mem, Or.comm]
    have uA := gr_addRoots_nodup (runLWith pick G gB (sentOf rootIds x) cfg).2.cats iFA.nodup
    have uB := gr_addRoots_nodup (runLWith pick G gA (sentOf rootIds x) cfg).2.cats iFB.nodup
    obtain ⟨rA, tA⟩ := lz_run_spec x.tokens hp iA
      (lz_tags_mono hlex pA) rfl uA (gr_addRoots_prefix _ _)
    obtain ⟨rB, tB⟩ := lz_run_spec x.tokens hp iB
      (lz_tags_mono hlex pB) rfl uB (gr_addRoots_prefix _ _)
    obtain ⟨h1, -, h3, -⟩ := C11.runWith_rename hn
      (renamed_grammarN (s := sentOf rootIds x) G uA uB hmem
        ((pA.trans gA').trans (gr_addRoots_prefix _ _)) ((pB.trans gB').trans (gr_addRoots_prefix _ _))
        hlex hroot) cfg
    rw [sentenceL_go_eq, sentenceL_go_eq, tA, tB, rA, rB, h1, treesN_rename G hmem,
      List.isEmpty_map]
    exact ⟨rfl, h3⟩

end Depccg.LazyProps
