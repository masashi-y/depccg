/-
  The html (MathML) format.  Two results carry the format: the printer is `skelText ∘ skelOf` (`mathmlSubtree_eq`), where
  `skelText sk` is the text of a skeleton; and the reader returns every skeleton from its text
  (`html_readMathml_skel`).  So everything is proved of skeletons, whatever tree they came from: the tokeniser on the
  templates and the reader on the resulting token lists, both stated with what follows the element, a text `k` that may
  follow a text token (`html_StartsOk k`) and any tokens `rest`.
-/
import Depccg.Print.Html
import Depccg.Proofs.Lit
import Depccg.Proofs.StrLemmas
import Depccg.Proofs.TreeLemmas

namespace Depccg.C07
open Depccg Str Print

def html_escChar (c : Nat) : Str :=
  if c == 38 then lit "&amp;" else if c == 60 then lit "&lt;" else if c == 62 then lit "&gt;"
  else if c == 34 then lit "&quot;" else if c == 39 then lit "&#x27;" else [c]

theorem html_escape_cons (c : Nat) (cs : Str) :
    htmlEscape (c :: cs) = html_escChar c ++ htmlEscape cs := rfl

theorem html_entities : ∀ c ∈ [38, 60, 62, 34, 39], ∃ e, html_escChar c = 38 :: e ∧
    (∀ d ∈ e, d ≠ 60 ∧ d ≠ 62 ∧ d ≠ 34 ∧ d ≠ 39) ∧ ∀ rest, unescapeEntity (e ++ rest) = some (c, rest) := by
  have l : lit "amp;" = [97, 109, 112, 59] ∧ lit "lt;" = [108, 116, 59] ∧ lit "gt;" = [103, 116, 59] ∧
      lit "quot;" = [113, 117, 111, 116, 59] ∧ lit "#x27;" = [35, 120, 50, 55, 59] := by decide_lit
  simp only [List.forall_mem_cons]
  refine ⟨⟨lit "amp;", by decide_lit, by decide_lit, fun rest => ?_⟩, ⟨lit "lt;", by decide_lit, by decide_lit, fun rest => ?_⟩,
    ⟨lit "gt;", by decide_lit, by decide_lit, fun rest => ?_⟩, ⟨lit "quot;", by decide_lit, by decide_lit, fun rest => ?_⟩,
    ⟨lit "#x27;", by decide_lit, by decide_lit, fun rest => ?_⟩, nofun⟩ <;>
  simp [unescapeEntity, l, startsWith]

theorem html_escChar_cases (c : Nat) :
    (∃ e, html_escChar c = 38 :: e ∧ (∀ d ∈ e, d ≠ 60 ∧ d ≠ 62 ∧ d ≠ 34 ∧ d ≠ 39) ∧
      ∀ rest, unescapeEntity (e ++ rest) = some (c, rest)) ∨
    (html_escChar c = [c] ∧ c ∉ [38, 60, 62, 34, 39]) := by
  by_cases h : c ∈ [38, 60, 62, 34, 39]
  · exact Or.inl (html_entities c h)
  · refine Or.inr ⟨?_, h⟩
    simp only [List.mem_cons, List.not_mem_nil, or_false, not_or] at h
    simp only [html_escChar, beq_iff_eq, h, if_false]

theorem html_escChar_safe (c : Nat) : ∀ d ∈ html_escChar c, d ≠ 60 ∧ d ≠ 62 ∧ d ≠ 34 ∧ d ≠ 39 := by
  rcases html_escChar_cases c with ⟨e, he, hs, _⟩ | ⟨h, hc⟩
  · rw [he]
    exact List.forall_mem_cons.2 ⟨by decide, hs⟩
  · simp only [List.mem_cons, List.not_mem_nil, or_false, not_or] at hc
    rw [h]
    exact List.forall_mem_cons.2 ⟨⟨hc.2.1, hc.2.2.1, hc.2.2.2.1, hc.2.2.2.2⟩, nofun⟩

theorem html_escape_safe_all : ∀ (s : Str), ∀ c ∈ htmlEscape s, c ≠ 60 ∧ c ≠ 62 ∧ c ≠ 34 ∧ c ≠ 39
  | [] => nofun
  | c :: cs => List.forall_mem_append.2 ⟨html_escChar_safe c, html_escape_safe_all cs⟩

theorem html_escape_no_lt (s : Str) : 60 ∉ htmlEscape s :=
  fun h => (html_escape_safe_all s 60 h).1 rfl

theorem html_unescape_step (c f : Nat) (rest : Str) :
    htmlUnescape (f + 1) (html_escChar c ++ rest) = c :: htmlUnescape f rest := by
  rcases html_escChar_cases c with ⟨e, he, _, hu⟩ | ⟨h, hc⟩
  · simp only [he, List.cons_append, htmlUnescape, beq_self_eq_true, if_true, hu]
  · have h38 : (c == 38) = false := by simpa using fun e : c = 38 => hc (e ▸ List.mem_cons_self)
    simp only [h, List.cons_append, List.nil_append, htmlUnescape, h38, Bool.false_eq_true, if_false]

theorem html_unescape_escape : ∀ (s : Str) (fuel : Nat), s.length ≤ fuel → htmlUnescape fuel (htmlEscape s) = s
  | [], fuel, _ => by cases fuel <;> rfl
  | _ :: _, 0, h => absurd h (Nat.not_succ_le_zero _)
  | c :: cs, f + 1, h => by
    rw [html_escape_cons, html_unescape_step, html_unescape_escape cs f (Nat.le_of_succ_le_succ h)]

theorem html_escape_length : ∀ s : Str, s.length ≤ (htmlEscape s).length
  | [] => Nat.le_refl _
  | c :: cs => by
    have := html_escape_length cs
    have : 1 ≤ (html_escChar c).length := by
      rcases html_escChar_cases c with ⟨e, he, _⟩ | ⟨h, _⟩
      · simp [he]
      · simp [h]
    rw [html_escape_cons, List.length_append, List.length_cons]
    omega

theorem html_unesc_escape (s : Str) : unesc (htmlEscape s) = s :=
  html_unescape_escape s _ (Nat.le_succ_of_le (html_escape_length s))

theorem html_escape_eq_nil {s : Str} (h : htmlEscape s = []) : s = [] := by
  have := html_escape_length s
  rw [h] at this
  exact List.eq_nil_of_length_eq_zero (Nat.le_zero.1 this)

theorem html_tokens_mono : ∀ (f1 f2 : Nat) (s : Str), s.length ≤ f1 → s.length ≤ f2 →
    htmlTokens f1 s = htmlTokens f2 s
  | _, _, [], _, _ => by
    rename_i f1 f2
    cases f1 <;> cases f2 <;> rfl
  | 0, _, _ :: _, h, _ => by simp at h
  | _ + 1, 0, _ :: _, _, h => by simp at h
  | f1 + 1, f2 + 1, c :: cs, h1, h2 => by
    simp only [List.length_cons, Nat.add_le_add_iff_right] at h1 h2
    unfold htmlTokens
    split
    · congr 1
      apply html_tokens_mono
      · have := length_dropWhile_le (· != 62) cs
        simp only [List.length_drop]; omega
      · have := length_dropWhile_le (· != 62) cs
        simp only [List.length_drop]; omega
    · rename_i hc
      have hc' : c ≠ 60 := by simpa using hc
      have hd : ((c :: cs).dropWhile (· != 60)) = cs.dropWhile (· != 60) := by
        simp [hc']
      congr 1
      rw [hd]
      apply html_tokens_mono
      · have := length_dropWhile_le (· != 60) cs; omega
      · have := length_dropWhile_le (· != 60) cs; omega

def html_toks (s : Str) : List HTok := htmlTokens s.length s

theorem html_tokens_eq_toks {s : Str} {f : Nat} (h : s.length ≤ f) : htmlTokens f s = html_toks s :=
  html_tokens_mono f s.length s h (Nat.le_refl _)

/-- a continuation at which a text token may end: the end of the string or a `<` (`Stops (· != 60)` of `StrLemmas`,
    spelt so that the `<` can be taken off by `rcases`) -/
def html_StartsOk (k : Str) : Prop := k = [] ∨ ∃ k', k = 60 :: k'

theorem html_toks_nil : html_toks [] = [] := rfl

theorem html_toks_tag (t k : Str) (ht : 62 ∉ t) :
    html_toks (60 :: (t ++ 62 :: k)) = HTok.tag t :: html_toks k := by
  have h := span_ne_append k ht
  show htmlTokens ((t ++ 62 :: k).length + 1) (60 :: (t ++ 62 :: k)) = _
  unfold htmlTokens
  simp only [h.1, h.2, List.drop_one, List.tail_cons]
  simp only [beq_self_eq_true, if_true]
  congr 1
  apply html_tokens_eq_toks
  simp only [List.length_append, List.length_cons]; omega

theorem html_toks_text (t k : Str) (hne : t ≠ []) (ht : 60 ∉ t) (hk : html_StartsOk k) :
    html_toks (t ++ k) = HTok.text t :: html_toks k := by
  have h : (t ++ k).takeWhile (· != 60) = t ∧ (t ++ k).dropWhile (· != 60) = k := by
    rcases hk with rfl | ⟨k', rfl⟩
    · simpa using span_all (bne_of_notMem ht)
    · exact span_ne_append k' ht
  cases t with
  | nil => exact absurd rfl hne
  | cons c cs =>
    have hc : (c == 60) = false := by
      have : c ≠ 60 := fun e => ht (by simp [e])
      simpa using this
    show htmlTokens ((c :: cs ++ k).length) (c :: cs ++ k) = _
    rw [List.cons_append] at h ⊢
    rw [List.length_cons]
    unfold htmlTokens
    simp only [hc, h.1, h.2]
    simp only [Bool.false_eq_true, if_false]
    congr 1
    apply html_tokens_eq_toks
    simp

def html_textToks (s : Str) : List HTok := if s.isEmpty then [] else [HTok.text s]

theorem html_toks_textToks (x : Str) {k : Str} (hk : html_StartsOk k) :
    html_toks (htmlEscape x ++ k) = html_textToks (htmlEscape x) ++ html_toks k := by
  have ht := html_escape_no_lt x
  generalize htmlEscape x = t at ht ⊢
  cases t with
  | nil => simp [html_textToks]
  | cons c cs =>
    rw [html_toks_text _ _ (by simp) ht hk]
    simp [html_textToks]

def html_render : HTok → Str
  | .tag t => 60 :: (t ++ [62])
  | .text t => t

def html_renderAll : List HTok → Str
  | [] => []
  | x :: xs => html_render x ++ html_renderAll xs

def html_startsTag : List HTok → Bool
  | .tag _ :: _ => true
  | _ => false

def html_startsText : List HTok → Bool
  | .text _ :: _ => true
  | _ => false

/-- the token lists the tokeniser can return: no tag holds `>`, no text is empty or holds `<`, no two texts are
    adjacent.  On these the tokeniser inverts `html_renderAll` (`html_toks_renderAll`), provided what follows may
    follow a final text. -/
def html_wf : List HTok → Bool
  | [] => true
  | .tag t :: rest => !t.elem 62 && html_wf rest
  | .text t :: rest => !t.isEmpty && !t.elem 60 && !html_startsText rest && html_wf rest

def html_endsInText : List HTok → Bool
  | [] => false
  | [x] => html_startsText [x]
  | _ :: y :: rest => html_endsInText (y :: rest)

theorem html_startsOk_piece (l : List HTok) (x : Str) (h : html_startsTag l = true) :
    html_StartsOk (html_renderAll l ++ x) := by
  cases l with
  | nil => cases h
  | cons a rest =>
    cases a with
    | tag t => exact Or.inr ⟨_, rfl⟩
    | text t => cases h

theorem html_ends_tail {x : HTok} {rest : List HTok} {k : Str}
    (he : html_endsInText (x :: rest) = true → html_StartsOk k) : html_endsInText rest = true → html_StartsOk k := by
  cases rest with
  | nil => exact nofun
  | cons y ys => exact he

theorem html_startsOk_after_text {t : Str} {rest : List HTok} {k : Str} (hs : html_startsText rest = false)
    (he : html_endsInText (.text t :: rest) = true → html_StartsOk k) : html_StartsOk (html_renderAll rest ++ k) := by
  cases rest with
  | nil => exact he rfl
  | cons y ys =>
    cases y with
    | tag u => exact Or.inr ⟨_, rfl⟩
    | text u => cases hs

theorem html_toks_renderAll : ∀ (l : List HTok) (k : Str), html_wf l = true →
    (html_endsInText l = true → html_StartsOk k) → html_toks (html_renderAll l ++ k) = l ++ html_toks k
  | [], k, _, _ => rfl
  | .tag t :: rest, k, hw, he => by
    simp only [html_wf, Bool.and_eq_true, Bool.not_eq_true', List.elem_eq_mem, decide_eq_false_iff_not] at hw
    rw [html_renderAll, html_render, List.cons_append, List.cons_append, List.append_assoc, List.append_assoc,
      List.singleton_append, html_toks_tag _ _ hw.1, html_toks_renderAll rest k hw.2 (html_ends_tail he)]
    rfl
  | .text t :: rest, k, hw, he => by
    simp only [html_wf, Bool.and_eq_true, Bool.not_eq_true', List.elem_eq_mem, decide_eq_false_iff_not,
      List.isEmpty_eq_false_iff] at hw
    rw [html_renderAll, html_render, List.append_assoc,
      html_toks_text t _ hw.1.1.1 hw.1.1.2 (html_startsOk_after_text hw.1.2 he),
      html_toks_renderAll rest k hw.2 (html_ends_tail he)]
    rfl

/-- a literal piece of the templates and its tokens; it ends with a tag -/
def html_Piece (p : Str) (l : List HTok) : Prop :=
  p = html_renderAll l ∧ html_wf l = true ∧ html_endsInText l = false

instance (p : Str) (l : List HTok) : Decidable (html_Piece p l) := by unfold html_Piece; infer_instance

theorem html_Piece.toks {p : Str} {l : List HTok} (h : html_Piece p l) (k : Str) :
    html_toks (p ++ k) = l ++ html_toks k := by
  rw [h.1]
  exact html_toks_renderAll l k h.2.1 (fun e => by rw [h.2.2] at e; cases e)

theorem html_Piece.startsOk {p : Str} {l : List HTok} (h : html_Piece p l) {k : Str}
    (hs : html_startsTag l = true := by rfl) : html_StartsOk (p ++ k) := by
  rw [h.1]
  exact html_startsOk_piece l k hs

def html_segToks (p : Str × Str) : List HTok :=
  if p.2.isEmpty then .tag tagMiRed :: (html_textToks (htmlEscape p.1) ++ [.tag (lit "/mi")])
  else .tag (lit "msub") :: .tag tagMiRed :: (html_textToks (htmlEscape p.1) ++
    (.tag (lit "/mi") :: .text (lit "\n  ") :: .tag (lit "mrow") :: .text (lit "\n  ") :: .tag tagMiPurple ::
      (html_textToks (htmlEscape p.2) ++
        [.tag (lit "/mi"), .text (lit "\n  "), .tag (lit "/mrow"), .text (lit "\n"), .tag (lit "/msub")])))

theorem html_toks_seg (p : Str × Str) (k : Str) :
    html_toks (mathmlSeg p ++ k) = html_segToks p ++ html_toks k := by
  have hred : html_Piece miRed [.tag tagMiRed] := by unfold miRed tagMiRed; decide_lit
  have hmi : html_Piece (lit "</mi>") [.tag (lit "/mi")] := by decide_lit
  by_cases hp : p.2.isEmpty = true
  · simp only [mathmlSeg, html_segToks, hp, if_true, List.append_assoc]
    rw [hred.toks, html_toks_textToks _ hmi.startsOk, hmi.toks]
    simp only [List.cons_append, List.nil_append, List.append_assoc]
  · have hsub : html_Piece (lit "<msub>") [.tag (lit "msub")] := by decide_lit
    have hmid : html_Piece (lit "</mi>" ++ (lit "\n  <mrow>\n  " ++ miPurple))
        [.tag (lit "/mi"), .text (lit "\n  "), .tag (lit "mrow"), .text (lit "\n  "), .tag tagMiPurple] := by
      unfold miPurple tagMiPurple; decide_lit
    have hend : html_Piece (lit "</mi>\n  </mrow>\n</msub>")
        [.tag (lit "/mi"), .text (lit "\n  "), .tag (lit "/mrow"), .text (lit "\n"), .tag (lit "/msub")] := by
      decide_lit
    simp only [mathmlSeg, html_segToks, hp, if_false, List.append_assoc, Bool.false_eq_true]
    rw [hsub.toks, hred.toks, ← List.append_assoc (lit "\n  <mrow>\n  "), ← List.append_assoc (lit "</mi>"),
      html_toks_textToks _ hmid.startsOk, hmid.toks,
      html_toks_textToks _ hend.startsOk, hend.toks]
    simp only [List.cons_append, List.nil_append, List.append_assoc]

theorem html_toks_segs : ∀ (segs : List (Str × Str)) (k : Str),
    html_toks (segs.flatMap mathmlSeg ++ k) = segs.flatMap html_segToks ++ html_toks k
  | [], k => rfl
  | p :: ps, k => by
    simp only [List.flatMap_cons, List.append_assoc]
    rw [html_toks_seg, html_toks_segs ps k]

/-- the tokens after `</mstyle>`: the rule label and the end of the subtree -/
def html_labelToks (op : Str) : List HTok :=
  .text (lit "\n  ") :: .tag (lit "/mfrac") :: .text (lit "\n  ") ::
    .tag (lit "mtext mathsize='0.8' mathcolor='Black'") ::
    (html_textToks (htmlEscape op) ++ [.tag (lit "/mtext"), .text (lit "\n"), .tag (lit "/mrow"), .text (lit "\n")])

/-- the tokens of a subtree: the opening `opn`, the numerator `x`, then `mid`, the category and the label -/
def html_frameToks (opn x mid : List HTok) (segs : List (Str × Str)) (op : Str) : List HTok :=
  opn ++ (x ++ (mid ++ (segs.flatMap html_segToks ++ .tag (lit "/mstyle") :: html_labelToks op)))

/-- both templates: an opening piece, the numerator, a closing tag with `midStyle`, the category,
    `afterStyle`, the label and `subtreeClose` -/
theorem html_toks_frame {opnS midS x : Str} {opn mid tx : List HTok} (ho : html_Piece opnS opn)
    (hm : html_Piece midS mid) (hx : ∀ k, html_StartsOk k → html_toks (x ++ k) = tx ++ html_toks k)
    (hms : html_startsTag mid = true) (segs : List (Str × Str)) (op k : Str) (hk : html_StartsOk k) :
    html_toks (opnS ++ x ++ midS ++ segs.flatMap mathmlSeg ++ afterStyle ++ htmlEscape op ++ subtreeClose ++ k) =
      html_frameToks opn tx mid segs op ++ html_toks k := by
  have hafter : html_Piece afterStyle [.tag (lit "/mstyle"), .text (lit "\n  "), .tag (lit "/mfrac"),
      .text (lit "\n  "), .tag (lit "mtext mathsize='0.8' mathcolor='Black'")] := by unfold afterStyle; decide_lit
  have hclose : subtreeClose = html_renderAll [.tag (lit "/mtext"), .text (lit "\n"), .tag (lit "/mrow"),
      .text (lit "\n")] := by unfold subtreeClose; decide_lit
  simp only [List.append_assoc]
  rw [ho.toks, hx _ (hm.startsOk hms), hm.toks, html_toks_segs, hafter.toks, hclose,
    html_toks_textToks _ (html_startsOk_piece _ _ rfl),
    html_toks_renderAll _ _ (by decide_lit) (fun _ => hk)]
  simp only [html_frameToks, html_labelToks, List.cons_append, List.nil_append, List.append_assoc]

def html_leafToks (w : Str) (segs : List (Str × Str)) : List HTok :=
  html_frameToks [.tag (lit "mrow"), .text (lit "\n  "), .tag (lit "mfrac linethickness='2px'"), .text (lit "\n    "),
    .tag (lit "mtext mathsize='1.0' mathcolor='Black'")] (html_textToks (htmlEscape w))
    [.tag (lit "/mtext"), .text (lit "\n    "), .tag (lit "mstyle mathcolor='Red'")] segs (lit "lex")

def html_nodeToks (op : Str) (segs : List (Str × Str)) (ch : List HTok) : List HTok :=
  html_frameToks [.tag (lit "mrow"), .text (lit "\n  "), .tag (lit "mfrac  linethickness='2px'"), .text (lit "\n    "),
    .tag (lit "mrow")] ch [.tag (lit "/mrow"), .text (lit "\n    "), .tag (lit "mstyle mathcolor='Red'")] segs op

mutual
def skelText : HSkel → Str
  | .leaf w segs =>
    termOpen ++ htmlEscape w ++ lit "</mtext>" ++ midStyle ++ segs.flatMap mathmlSeg ++ afterStyle ++ lit "lex" ++ subtreeClose
  | .node op segs ch =>
    nontermOpen ++ skelsText ch ++ lit "</mrow>" ++ midStyle ++ segs.flatMap mathmlSeg ++ afterStyle ++ htmlEscape op
      ++ subtreeClose
def skelsText : List HSkel → Str
  | [] => []
  | c :: cs => skelText c ++ skelsText cs
end

mutual
def skelToks : HSkel → List HTok
  | .leaf w segs => html_leafToks w segs
  | .node op segs ch => html_nodeToks op segs (skelsToks ch)
def skelsToks : List HSkel → List HTok
  | [] => []
  | c :: cs => skelToks c ++ skelsToks cs
end

theorem html_termOpen_piece : html_Piece termOpen [.tag (lit "mrow"), .text (lit "\n  "),
    .tag (lit "mfrac linethickness='2px'"), .text (lit "\n    "), .tag (lit "mtext mathsize='1.0' mathcolor='Black'")] := by
  unfold termOpen; decide_lit

theorem html_nontermOpen_piece : html_Piece nontermOpen [.tag (lit "mrow"), .text (lit "\n  "),
    .tag (lit "mfrac  linethickness='2px'"), .text (lit "\n    "), .tag (lit "mrow")] := by
  unfold nontermOpen; decide_lit

theorem skelText_startsOk (sk : HSkel) (k : Str) : html_StartsOk (skelText sk ++ k) := by
  cases sk <;> simp only [skelText, List.append_assoc]
  · exact html_termOpen_piece.startsOk
  · exact html_nontermOpen_piece.startsOk

theorem skelsText_startsOk : ∀ (cs : List HSkel) (k : Str), html_StartsOk k → html_StartsOk (skelsText cs ++ k)
  | [], _, hk => hk
  | c :: cs, k, _ => by rw [skelsText, List.append_assoc]; exact skelText_startsOk c _

mutual
theorem html_toks_skel : ∀ (sk : HSkel) (k : Str), html_StartsOk k →
    html_toks (skelText sk ++ k) = skelToks sk ++ html_toks k
  | .leaf w segs, k, hk => by
    have hl : lit "lex" = htmlEscape (lit "lex") := by decide
    rw [skelText, hl, List.append_assoc (termOpen ++ htmlEscape w), skelToks, html_leafToks]
    exact html_toks_frame html_termOpen_piece (by unfold midStyle; decide_lit)
      (fun _ hk => html_toks_textToks _ hk) (by rfl) segs _ k hk
  | .node op segs ch, k, hk => by
    rw [skelText, List.append_assoc (nontermOpen ++ skelsText ch), skelToks, html_nodeToks]
    exact html_toks_frame html_nontermOpen_piece (by unfold midStyle; decide_lit) (html_toks_skels ch) (by rfl) segs op k hk
theorem html_toks_skels : ∀ (cs : List HSkel) (k : Str), html_StartsOk k →
    html_toks (skelsText cs ++ k) = skelsToks cs ++ html_toks k
  | [], _, _ => rfl
  | c :: cs, k, hk => by
    rw [skelsText, skelsToks, List.append_assoc, html_toks_skel c _ (skelsText_startsOk cs k hk),
      html_toks_skels cs k hk, List.append_assoc]
end

theorem html_readText_textToks (close w : Str) (rest : List HTok) :
    readText close (html_textToks (htmlEscape w) ++ HTok.tag close :: rest) = some (w, rest) := by
  unfold html_textToks
  by_cases he : (htmlEscape w).isEmpty = true
  · cases html_escape_eq_nil (List.isEmpty_iff.1 he)
    simp [htmlEscape, readText]
  · simp [he, readText, html_unesc_escape]

theorem html_readMiRed (w : Str) (rest : List HTok) :
    readMiRed (HTok.tag tagMiRed :: (html_textToks (htmlEscape w) ++ HTok.tag (lit "/mi") :: rest))
      = some (w, rest) := by
  simp only [readMiRed, beq_self_eq_true, if_true, html_readText_textToks]

theorem html_segs_length : ∀ (segs : List (Str × Str)), segs.length ≤ (segs.flatMap html_segToks).length
  | [] => Nat.le_refl _
  | p :: ps => by
    have : 1 ≤ (html_segToks p).length := by
      unfold html_segToks
      split <;> simp
    have := html_segs_length ps
    simp only [List.flatMap_cons, List.length_append, List.length_cons]; omega

theorem html_readSegs : ∀ (segs : List (Str × Str)) (fuel : Nat) (rest : List HTok),
    segs.length < fuel →
    readSegs fuel (segs.flatMap html_segToks ++ HTok.tag (lit "/mstyle") :: rest) = some (segs, rest)
  | _, 0, _, h => absurd h (Nat.not_lt_zero _)
  | [], f + 1, rest, _ => by
    rw [List.flatMap_nil, List.nil_append, readSegs]
    simp only [beq_self_eq_true, if_true]
  | (p1, p2) :: ps, f + 1, rest, h => by
    have ih := html_readSegs ps f rest (Nat.lt_of_succ_lt_succ h)
    have n1 : (tagMiRed == lit "/mstyle") = false := by unfold tagMiRed; decide_lit
    have n2 : (tagMiRed == lit "msub") = false := by unfold tagMiRed; decide_lit
    have n3 : (lit "msub" == lit "/mstyle") = false := by decide_lit
    by_cases hp : p2.isEmpty = true
    · cases List.isEmpty_iff.1 hp
      simp only [List.flatMap_cons, html_segToks, List.isEmpty_nil, if_true, List.append_assoc, List.cons_append,
        List.nil_append]
      rw [readSegs]
      simp only [n1, n2, Bool.false_eq_true, if_false, html_readMiRed, ih]
    · simp only [List.flatMap_cons, html_segToks, hp, if_false, List.append_assoc, List.cons_append, List.nil_append,
        Bool.false_eq_true]
      rw [readSegs]
      simp only [n3, Bool.false_eq_true, if_false, beq_self_eq_true, if_true, html_readMiRed, Bool.and_self,
        html_readText_textToks, ih]

theorem html_readLabel (op : Str) (rest : List HTok) : readLabel (html_labelToks op ++ rest) = some (op, rest) := by
  rw [html_labelToks, readLabel.eq_def]
  simp only [List.cons_append, List.append_assoc, List.nil_append, beq_self_eq_true, Bool.and_self, if_true,
    html_readText_textToks]

theorem html_readSegs_label (segs : List (Str × Str)) (op : Str) (rest : List HTok) :
    ∃ rest3, readSegs ((segs.flatMap html_segToks ++ .tag (lit "/mstyle") :: (html_labelToks op ++ rest)).length + 1)
        (segs.flatMap html_segToks ++ .tag (lit "/mstyle") :: (html_labelToks op ++ rest)) = some (segs, rest3) ∧
      readLabel rest3 = some (op, rest) :=
  ⟨_, html_readSegs segs _ _ (by
    have := html_segs_length segs
    simp only [List.length_append, List.length_cons]; omega), html_readLabel op rest⟩

theorem html_readSub_leaf (w : Str) (segs : List (Str × Str)) (f : Nat) (rest : List HTok) :
    readSub (f + 1) (html_leafToks w segs ++ rest) = some (HSkel.leaf w segs, rest) := by
  obtain ⟨rest3, h1, h2⟩ := html_readSegs_label segs (lit "lex") rest
  simp only [html_leafToks, html_frameToks, List.cons_append, List.nil_append, List.append_assoc] at h1 ⊢
  rw [readSub]
  simp only [bne_self_eq_false, Bool.false_eq_true, if_false, beq_self_eq_true, if_true,
    html_readText_textToks, h1, h2]

theorem html_readSubs_nil (f : Nat) (rest : List HTok) :
    readSubs (f + 1) (HTok.tag (lit "/mrow") :: rest) = some ([], rest) := by
  rw [readSubs]
  simp only [beq_self_eq_true, if_true]

theorem html_readSubs_cons (f : Nat) (tl x y : List HTok) (c : HSkel) (cs : List HSkel)
    (h1 : readSub f (HTok.tag (lit "mrow") :: tl ++ x) = some (c, x))
    (h2 : readSubs f x = some (cs, y)) :
    readSubs (f + 1) (HTok.tag (lit "mrow") :: tl ++ x) = some (c :: cs, y) := by
  rw [List.cons_append] at h1 ⊢
  rw [readSubs]
  simp only [(by decide_lit : (lit "mrow" == lit "/mrow") = false), Bool.false_eq_true, if_false, h1, h2]

theorem html_readSub_node (op : Str) (segs : List (Str × Str)) (ch : List HTok) (children : List HSkel)
    (f : Nat) (rest : List HTok)
    (h : ∀ x, readSubs f (ch ++ HTok.tag (lit "/mrow") :: x) = some (children, x)) :
    readSub (f + 1) (html_nodeToks op segs ch ++ rest) = some (HSkel.node op segs children, rest) := by
  obtain ⟨rest3, h1, h2⟩ := html_readSegs_label segs op rest
  simp only [html_nodeToks, html_frameToks, List.cons_append, List.nil_append, List.append_assoc] at h1 ⊢
  rw [readSub]
  -- the node template has two blanks after `mfrac` (its `{3}` is filled with nothing), the leaf template
  -- one: `readSub` tells the two apart by that
  simp only [bne_self_eq_false, Bool.false_eq_true, if_false, beq_self_eq_true, if_true,
    (by decide_lit : (lit "mfrac  linethickness='2px'" == lit "mfrac linethickness='2px'") = false), h, h1, h2]

theorem skelToks_head (sk : HSkel) : ∃ tl, skelToks sk = HTok.tag (lit "mrow") :: tl := by
  cases sk <;> exact ⟨_, rfl⟩

theorem html_nodeToks_length (op : Str) (segs : List (Str × Str)) (ch : List HTok) :
    ch.length + 2 ≤ (html_nodeToks op segs ch).length := by
  simp only [html_nodeToks, html_frameToks, List.length_append, List.length_cons]
  omega

mutual
/-- `readSub` spends one unit of fuel on a node, `readSubs` one on every child and one on the closing `/mrow`:
    the number of tokens is more than enough -/
theorem html_read_skel : ∀ (sk : HSkel) (fuel : Nat) (rest : List HTok), (skelToks sk).length ≤ fuel →
    readSub fuel (skelToks sk ++ rest) = some (sk, rest)
  | .leaf w segs, fuel, rest, hf => by
    obtain ⟨tl, ht⟩ := skelToks_head (.leaf w segs)
    obtain ⟨f, rfl⟩ : ∃ f, fuel = f + 1 := ⟨fuel - 1, by rw [ht, List.length_cons] at hf; omega⟩
    rw [skelToks]
    exact html_readSub_leaf w segs f rest
  | .node op segs ch, fuel, rest, hf => by
    have := html_nodeToks_length op segs (skelsToks ch)
    rw [skelToks] at hf ⊢
    obtain ⟨f, rfl⟩ : ∃ f, fuel = f + 1 := ⟨fuel - 1, by omega⟩
    exact html_readSub_node op segs _ ch f rest fun x => html_read_skels ch f x (by omega)
theorem html_read_skels : ∀ (cs : List HSkel) (fuel : Nat) (x : List HTok), (skelsToks cs).length < fuel →
    readSubs fuel (skelsToks cs ++ HTok.tag (lit "/mrow") :: x) = some (cs, x)
  | [], fuel, x, hf => by
    obtain ⟨f, rfl⟩ : ∃ f, fuel = f + 1 := ⟨fuel - 1, by omega⟩
    exact html_readSubs_nil f x
  | c :: cs, fuel, x, hf => by
    obtain ⟨f, rfl⟩ : ∃ f, fuel = f + 1 := ⟨fuel - 1, by omega⟩
    obtain ⟨tl, ht⟩ := skelToks_head c
    have ih := html_read_skel c f (skelsToks cs ++ HTok.tag (lit "/mrow") :: x)
    rw [skelsToks, List.length_append] at hf
    rw [skelsToks, List.append_assoc]
    rw [ht] at hf ih ⊢
    rw [List.length_cons] at hf
    exact html_readSubs_cons f tl _ x c cs (ih (by simp only [List.length_cons]; omega)) (html_read_skels cs f x (by omega))
end

theorem html_readMathml_skel (sk : HSkel) : readMathml (skelText sk) = some sk := by
  have h1 : htmlTokens ((skelText sk).length + 1) (skelText sk) = skelToks sk := by
    rw [html_tokens_eq_toks (Nat.le_succ _)]
    simpa [html_toks_nil] using html_toks_skel sk [] (Or.inl rfl)
  have h2 := html_read_skel sk ((skelToks sk).length + 1) [] (Nat.le_succ _)
  rw [List.append_nil] at h2
  simp only [readMathml, h1, h2]

theorem mathmlSubtree_eq : ∀ t : Tree, mathmlSubtree t = (skelOf t).map skelText
  | .leaf c tok _ _ => by
    rw [mathmlSubtree, skelOf]
    cases Token.get tok (lit "word") <;> rfl
  | .un c op _ ch => by
    rw [mathmlSubtree, skelOf, mathmlSubtree_eq ch]
    cases skelOf ch <;> simp only [Except.map, skelText, skelsText, mathmlNonterminal, mathmlCatText, List.append_nil]
  | .bin c op _ _ l r => by
    rw [mathmlSubtree, skelOf, mathmlSubtree_eq l, mathmlSubtree_eq r]
    cases skelOf l <;> cases skelOf r <;>
      simp only [Except.map, skelText, skelsText, mathmlNonterminal, mathmlCatText, List.append_nil]

theorem mathmlSubtree_ok {t : Tree} {s : Str} (h : mathmlSubtree t = .ok s) : ∃ sk, skelOf t = .ok sk ∧ s = skelText sk := by
  rw [mathmlSubtree_eq] at h
  cases hsk : skelOf t with
  | error e => rw [hsk] at h; cases h
  | ok sk => rw [hsk] at h; cases h; exact ⟨sk, rfl, rfl⟩

theorem mathmlSubtree_total : ∀ (t : Tree), TextProps.AllToks (fun tok => (Token.get? tok (lit "word")).isSome) t →
    ∃ s, mathmlSubtree t = .ok s
  | .leaf c tok _ _, h => by
    cases hg : Dict.get? tok (lit "word") with
    | none =>
      have h : (Dict.get? tok (lit "word")).isSome = true := h
      rw [hg] at h
      cases h
    | some w => exact ⟨_, by rw [mathmlSubtree, Token.get, hg]⟩
  | .un c _ _ ch, h => by
    obtain ⟨s, hs⟩ := mathmlSubtree_total ch h
    exact ⟨_, by rw [mathmlSubtree, hs]⟩
  | .bin c _ _ _ l r, h => by
    obtain ⟨sl, hl⟩ := mathmlSubtree_total l h.1
    obtain ⟨sr, hr⟩ := mathmlSubtree_total r h.2
    exact ⟨_, by rw [mathmlSubtree, hl, hr]⟩

/-! What follows stands without a user: the theorems of this file are stated over skeletons. -/
def html_fuelOf : Tree → Nat
  | .leaf .. => 1
  | .un _ _ _ ch => html_fuelOf ch + 2
  | .bin _ _ _ _ l r => html_fuelOf l + html_fuelOf r + 3

structure html_Printed (t : Tree) (s : Str) (sk : HSkel) (tl : List HTok) : Prop where
  toks : ∀ k, html_StartsOk k → html_toks (s ++ k) = (HTok.tag (lit "mrow") :: tl) ++ html_toks k
  read : ∀ fuel rest, html_fuelOf t ≤ fuel →
    readSub fuel ((HTok.tag (lit "mrow") :: tl) ++ rest) = some (sk, rest)
  len : html_fuelOf t ≤ tl.length
  starts : ∃ s', s = 60 :: s'

mutual
def html_skelBeq : HSkel → HSkel → Bool
  | .leaf w c, .leaf w' c' => w == w' && c == c'
  | .node o c ch, .node o' c' ch' => o == o' && c == c' && html_skelsBeq ch ch'
  | _, _ => false
termination_by structural a => a
def html_skelsBeq : List HSkel → List HSkel → Bool
  | [], [] => true
  | a :: as, b :: bs => html_skelBeq a b && html_skelsBeq as bs
  | _, _ => false
termination_by structural a => a
end

mutual
theorem html_skelBeq_sound : ∀ (a b : HSkel), html_skelBeq a b = true → a = b
  | .leaf w c, .leaf w' c', h => by
    simp only [html_skelBeq, Bool.and_eq_true, beq_iff_eq] at h
    rw [h.1, h.2]
  | .node o c ch, .node o' c' ch', h => by
    simp only [html_skelBeq, Bool.and_eq_true, beq_iff_eq] at h
    rw [h.1.1, h.1.2, html_skelsBeq_sound ch ch' h.2]
  | .leaf .., .node .., h => by simp [html_skelBeq] at h
  | .node .., .leaf .., h => by simp [html_skelBeq] at h
theorem html_skelsBeq_sound : ∀ (a b : List HSkel), html_skelsBeq a b = true → a = b
  | [], [], _ => rfl
  | a :: as, b :: bs, h => by
    simp only [html_skelsBeq, Bool.and_eq_true] at h
    rw [html_skelBeq_sound a b h.1, html_skelsBeq_sound as bs h.2]
  | [], _ :: _, h => by simp [html_skelsBeq] at h
  | _ :: _, [], h => by simp [html_skelsBeq] at h
end

/-- the conclusion of `html_decode`, as a boolean -/
def html_decodeCheck (t : Tree) : Bool :=
  match mathmlSubtree t, skelOf t with
  | .ok s, .ok sk =>
    match readMathml s with
    | some sk' => html_skelBeq sk' sk
    | none => false
  | _, _ => false

theorem html_decodeCheck_sound (t : Tree) (h : html_decodeCheck t = true) :
    ∃ s sk, mathmlSubtree t = .ok s ∧ skelOf t = .ok sk ∧ readMathml s = some sk := by
  unfold html_decodeCheck at h
  split at h
  · rename_i s sk hs hsk
    split at h
    · rename_i sk' hr
      exact ⟨s, sk, hs, hsk, by rw [hr, html_skelBeq_sound _ _ h]⟩
    · cases h
  · cases h

end Depccg.C07
