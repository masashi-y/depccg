import Depccg.GlueTree
import Depccg.Props.SearchDefs

namespace Depccg.GlueTree
open Depccg Search SearchProps

/-- `retrieve` and `C12.Mirrors` are written with the model's `dcatId`, `Licensed` and the search
    theorems with `dcat`: the one bridge between them -/
theorem dcatId_eq (d : Deriv) : dcatId d = dcat d := by cases d <;> rfl

variable {T : Tables} {tokens : List Token}

theorem retrieve_leaf_ok {t c : Nat} {tr : Tree} :
    retrieve T tokens (.leaf t c) = .ok tr ↔
      ∃ cat tok, T.cats c = some cat ∧ tokens[t]? = some tok ∧ tr = Tree.mkTerminal tok cat := by
  simp only [retrieve]
  cases T.cats c with
  | none => simp
  | some cat =>
    cases tokens[t]? with
    | none => simp
    | some tok => simp [eq_comm]

theorem retrieve_un_ok {c rid : Nat} {d : Deriv} {tr : Tree} :
    retrieve T tokens (.un c rid d) = .ok tr ↔
      ∃ ch cat e, retrieve T tokens d = .ok ch ∧ T.cats c = some cat ∧
        (T.un (dcat d))[rid]? = some e ∧ tr = .un cat e.opString e.opSymbol ch := by
  simp only [retrieve, dcatId_eq]
  cases retrieve T tokens d with
  | error err => simp
  | ok ch =>
    cases T.cats c with
    | none => simp
    | some cat =>
      cases (T.un (dcat d))[rid]? with
      | none => simp
      | some e => simp [eq_comm]

theorem retrieve_bin_ok {c rid : Nat} {hl : Bool} {l r : Deriv} {tr : Tree} :
    retrieve T tokens (.bin c rid hl l r) = .ok tr ↔
      ∃ tl tr' cat e, retrieve T tokens l = .ok tl ∧ retrieve T tokens r = .ok tr' ∧
        T.cats c = some cat ∧ (T.bin (dcat l) (dcat r))[rid]? = some e ∧
        tr = .bin cat e.opString e.opSymbol e.headLeft tl tr' := by
  simp only [retrieve, dcatId_eq]
  cases retrieve T tokens l with
  | error err => simp
  | ok tl =>
    cases retrieve T tokens r with
    | error err => simp
    | ok tr' =>
      cases T.cats c with
      | none => simp
      | some cat =>
        cases (T.bin (dcat l) (dcat r))[rid]? with
        | none => simp
        | some e => simp [eq_comm]

theorem grammarOf_un_getElem? (T : Tables) (x rid : Nat) :
    ((grammarOf T).un x)[rid]? = ((T.un x)[rid]?).map (·.catId) := List.getElem?_map ..

theorem grammarOf_bin_getElem? (T : Tables) (x y rid : Nat) :
    ((grammarOf T).bin x y)[rid]? = ((T.bin x y)[rid]?).map fun e => ⟨e.catId, e.headLeft⟩ :=
  List.getElem?_map ..

end Depccg.GlueTree
