/-
  Type preservation all the way to what the caller receives.

  Every returned tree is licensed by the rule functions and its leaves carry categories of the
  caller's list (`ow_sentence_trees`); the grammar the program uses keeps `C05.WF`
  (`CliProps.shipped_closed` with `wf_ruleClosed`). `output_cats_roundtrip` follows with C05
  (`parse_print`).
-/
import Depccg.Props.C05
import Depccg.Props.OutputWFDefs
import Depccg.Proofs.OutputWFLemmas

namespace Depccg.OutputWF
open Depccg Search GlueTree GlueRun Lazy LazyProps C05 TextProps Closure

/-- the hypothesis on the roots is not used: a root category on a tree is a lexical category or a
    rule result -/
theorem lazy_trees_wf : LazyTreesWFStatement := by
  intro en seen table categories roots calls cfg maxLength x trees hnd hlex htab hcats _ h ts hts
  obtain ⟨hlic, -, hleaf⟩ := ow_sentence_trees hnd hlex h ts hts
  exact licensed_allCats (CliProps.shipped_closed wf_iff wf_ruleClosed en seen htab) hlic
    (fun c hc => hcats c (hleaf c hc))

theorem output_cats_roundtrip : OutputCatsRoundtripStatement := by
  intro en seen table categories roots calls cfg maxLength x trees hnd hlex htab hcats hroots h ts hts
  exact AllCats.mono parse_print
    (lazy_trees_wf en seen table categories roots calls cfg maxLength x trees hnd hlex htab hcats hroots h ts hts)

end Depccg.OutputWF
