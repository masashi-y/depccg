/-
  C07, `deriv` format: the independent reader `Read.decDeriv` reads back every printed derivation
  (words, shape, leaf and node categories, rule symbols); hence trees with the same printed
  derivation have the same view.
-/
import Depccg.Props.C07DerivDefs
import Depccg.Props.C07
import Depccg.Proofs.C07DerivLemmas
import Depccg.Proofs.Lit

namespace Depccg.C07
open Depccg Str Print Read TextProps

theorem deriv_decode : DerivDecodeStatement := by
  intro t s hc ht hy hs
  obtain ⟨rfl, hl, hf1, hf2⟩ := dd_printed t s hc ht hy hs
  have hsplit : splitOn 10 (frontText 10 (dd_docLines t)) = dd_docLines t ++ [[]] :=
    blockText_lines _ fun l h => (hl l h).2
  -- the root spans all columns (no entries left or right of it); `[[]]` is the empty piece `splitOn` leaves after
  -- the last newline, which `reduceAll` accepts
  have hred := dd_reduceAll_tree t 0 [] [] [[]] hc hy nofun
  simp only [List.nil_append, List.append_nil, Nat.zero_add] at hred
  rw [decDeriv, hsplit]
  simp only [dd_docLines, List.cons_append, dd_fields_rstrip, hf1, hf2, dd_leafForest, hred, reduceAll,
    List.isEmpty_nil, if_true]

/-- two trees with the same printed derivation have the same view -/
theorem deriv_injective : DerivInjectiveStatement := fun t t' s hc ht hy hc' ht' hy' hs hs' =>
  Option.some.inj ((deriv_decode t s hc ht hy hs).symm.trans (deriv_decode t' s hc' ht' hy' hs'))

/-! ### the hypotheses are satisfiable: three words, a unary node that is the LEFT child of the
  root (its rule line does not reach the last column), a binary node below the root, an odd
  padding (`dogs` under `N`), an empty and a non-empty rule symbol -/

section examples

private def dN : Cat := .atom (lit "N") (.un none)
private def dNP : Cat := .atom (lit "NP") (.un none)
private def dS : Cat := .atom (lit "S") (.un (some (lit "dcl")))
private def dVP : Cat := .fn dS cBSlash dNP
private def dTV : Cat := .fn dVP cSlash dNP

private def dTree : Tree :=
  .bin dS (lit "ba") (lit "<") false
    (.un dNP (lit "lex") (lit "<un>") (.leaf dN (Token.ofWord (lit "dogs")) (lit "lex") (lit "<lex>")))
    (.bin dVP (lit "fa") [] true
      (.leaf dTV [(lit "word", lit "see"), (lit "pos", lit "VBP")] (lit "lex") (lit "<lex>"))
      (.leaf dNP (Token.ofWord (lit "Kim")) (lit "lex") (lit "<lex>")))

private def dText : Str := lit
  ("  N    (S[dcl]\\NP)/NP  NP\n dogs       see        Kim\n------<un>\n  NP\n" ++
   "      ---------------------\n            S[dcl]\\NP\n---------------------------<\n          S[dcl]\n")

private def dView : DView :=
  .bin (lit "S[dcl]") (lit "<")
    (.un (lit "NP") (lit "<un>") (.leaf (lit "N") (lit "dogs")))
    (.bin (lit "S[dcl]\\NP") [] (.leaf (lit "(S[dcl]\\NP)/NP") (lit "see")) (.leaf (lit "NP") (lit "Kim")))

private theorem dCats : AllCats (fun c => Field c.str) dTree := by
  simp only [dTree, AllCats, Field]; decide +kernel

private theorem dToks :
    AllToks (fun tok => ∃ w, Token.get? tok (lit "word") = some w ∧ Field w) dTree :=
  ⟨⟨lit "dogs", by decide +kernel, by simp only [Field]; decide +kernel⟩,
   ⟨lit "see", by decide +kernel, by simp only [Field]; decide +kernel⟩,
   ⟨lit "Kim", by decide +kernel, by simp only [Field]; decide +kernel⟩⟩

private theorem dSyms : SymsOK dTree := by
  simp only [dTree, SymsOK, SymOK]; decide +kernel

private theorem dPrinted : derivOf dTree = .ok dText := by unfold dText; decide_lit

example : viewDeriv dTree = dView := by decide +kernel

example : decDeriv dText = some dView := by unfold dText; decide_lit

example : decDeriv dText = some (viewDeriv dTree) := deriv_decode dTree dText dCats dToks dSyms dPrinted

example : derivOf (.leaf dNP (Token.ofWord (lit "Kim")) [] []) = .ok (lit " NP\n Kim\n") ∧
    decDeriv (lit " NP\n Kim\n") = some (.leaf (lit "NP") (lit "Kim")) := by decide +kernel

end examples

end Depccg.C07
