/-
  C07, the two Prolog formats: the independent readers `Read.decPrologEn` / `Read.decPrologJa`
  read back every printed output (sentence numbers, tree shape, categories as spelled by the
  format, rule functors, extra category arguments, leaf fields); hence batches with the same
  output have the same numbered views.
-/
import Depccg.Props.C07PrologDefs
import Depccg.Proofs.C07PrologLemmas
import Depccg.Proofs.Lit

namespace Depccg.C07
open Depccg Str Print Read TextProps

theorem prolog_en_decode : PrologEnDecodeStatement := by
  intro batch text hb h
  rw [← text.append_nil]
  exact pl_decode_en hb pl_ws_nil h

theorem prolog_en_injective : PrologEnInjectiveStatement := fun b b' text hb hb' h h' =>
  Option.some.inj ((prolog_en_decode b text hb h).symm.trans (prolog_en_decode b' text hb' h'))

theorem prolog_ja_decode : PrologJaDecodeStatement := by
  intro batch text hb h
  rw [← text.append_nil]
  exact pl_decode_ja hb pl_ws_nil h

theorem prolog_ja_injective : PrologJaInjectiveStatement := fun b b' text hb hb' h h' =>
  Option.some.inj ((prolog_ja_decode b text hb h).symm.trans (prolog_ja_decode b' text hb' h'))

/-- the hypotheses on the categories follow from a condition on the category VALUES: atom bases,
    feature texts and slashes free of blanks, newlines, commas and parentheses -/
theorem prolog_en_decode_plain (batch : List (List Tree)) (text : Str)
    (hb : ∀ ts ∈ batch, ∀ t ∈ ts, AllCats PlainCatEn t ∧ AllToks EnTokOK t)
    (h : prologEn batch = .ok text) :
    decPrologEn text = some ((numbered batch).map fun p => (p.1, viewPrologEn p.2)) :=
  prolog_en_decode batch text
    (fun ts hts t ht => ⟨AllCats.mono pl_enCatOK_of_plain (hb ts hts t ht).1, (hb ts hts t ht).2⟩) h

theorem prolog_ja_decode_plain (batch : List (List Tree)) (text : Str)
    (hb : ∀ ts ∈ batch, ∀ t ∈ ts, AllCats PlainCatJa t ∧ AllToks JaTokOK t)
    (h : prologJa batch = .ok text) :
    decPrologJa text = some ((numbered batch).map fun p => (p.1, viewPrologJa p.2)) :=
  prolog_ja_decode batch text
    (fun ts hts t ht => ⟨AllCats.mono pl_jaCatOK_of_plain (hb ts hts t ht).1, (hb ts hts t ht).2⟩) h

section examples

/-! English: two sentences, the second with two derivations. A unary `lx` node, a `conj` node
  (with its extra `leftcat`), a `conj2` wrapper, an `lp` wrapper, `fx` printed as `fc`, a category
  `,` printed as `comma`, a quote and an inner backslash in a word. -/

private def eN : Cat := .atom (lit "N") (.un none)
private def eNP : Cat := .atom (lit "NP") (.un none)
private def eS : Cat := .atom (lit "S") (.un (some (lit "dcl")))
private def eConj : Cat := .atom (lit "conj") (.un none)
private def eComma : Cat := .atom (lit ",") (.un none)
private def eVP : Cat := .fn eS cBSlash eNP
private def eMod : Cat := .fn eNP cBSlash eNP
private def eLeaf (c : Cat) (w : String) : Tree := .leaf c (Token.ofWord (lit w)) (lit "lex") (lit "<lex>")

private def eT1 : Tree :=
  .bin eS (lit "ba") (lit "<") false
    (.bin eNP (lit "ba") (lit "<") true
      (.un eNP (lit "lex") (lit "<un>") (eLeaf eN "dogs"))
      (.bin eMod (lit "conj") (lit "<Φ>") false (eLeaf eConj "and")
        (.leaf eNP [(lit "word", lit "Kim's"), (lit "pos", lit "NNP")] (lit "lex") (lit "<lex>"))))
    (eLeaf eVP "r\\un")

private def eT2 : Tree :=
  .bin eNP (lit "conj2") (lit "<Φ>") true (eLeaf eNP "a") (eLeaf eMod "b")

private def eT3 : Tree :=
  .bin eVP (lit "lp") (lit "<lp>") false (eLeaf eComma ",")
    (.bin eVP (lit "fx") (lit ">Bx") true (eLeaf eVP "c") (eLeaf eNP "d"))

private def eBatch : List (List Tree) := [[eT1], [eT2, eT3]]

private def unlines (ls : List String) : Str := (ls.map fun l => lit l ++ [10]).flatten

private def headerLines : List String :=
  [":- op(601, xfx, (/)).", ":- op(601, xfx, (\\)).", ":- multifile ccg/2, id/2.",
   ":- discontiguous ccg/2, id/2.", ""]

private def eText : Str := unlines (headerLines ++
  ["ccg(1,",
   " ba(s:dcl,",
   "  ba(np,",
   "   lx(np, n,",
   "    t(n, 'dogs', 'XX', 'XX', 'XX', 'XX')),",
   "   conj((np\\np), np,",
   "    t(conj, 'and', 'XX', 'XX', 'XX', 'XX'),",
   "    t(np, 'Kim\\'s', 'XX', 'NNP', 'XX', 'XX'))),",
   "  t((s:dcl\\np), 'r\\un', 'XX', 'XX', 'XX', 'XX'))).",
   "",
   "ccg(2,",
   " conj(np, (np\\np)\\(np\\np),",
   "  conj((np\\np)\\(np\\np), (np\\np),",
   "   t(np, 'a', 'XX', 'XX', 'XX', 'XX'),",
   "   t((np\\np), 'b', 'XX', 'XX', 'XX', 'XX')))).",
   "",
   "ccg(2,",
   " lx((s:dcl\\np), (s:dcl\\np),",
   "  lp((s:dcl\\np),",
   "   t(comma, ',', 'XX', 'XX', 'XX', 'XX'),",
   "   fc((s:dcl\\np),",
   "    t((s:dcl\\np), 'c', 'XX', 'XX', 'XX', 'XX'),",
   "    t(np, 'd', 'XX', 'XX', 'XX', 'XX'))))).",
   ""])

private def xx : Str := lit "XX"
private def eLeafV (c w : String) : PView := .leaf (lit c) [lit w, xx, xx, xx, xx]

private def eViews : List (Nat × PView) :=
  [(1, .node (lit "ba") (lit "s:dcl") []
        [.node (lit "ba") (lit "np") []
          [.node (lit "lx") (lit "np") [lit "n"] [eLeafV "n" "dogs"],
           .node (lit "conj") (lit "(np\\np)") [lit "np"]
             [eLeafV "conj" "and", .leaf (lit "np") [lit "Kim's", xx, lit "NNP", xx, xx]]],
         eLeafV "(s:dcl\\np)" "r\\un"]),
   (2, .node (lit "conj") (lit "np") [lit "(np\\np)\\(np\\np)"]
        [.node (lit "conj") (lit "(np\\np)\\(np\\np)") [lit "(np\\np)"]
          [eLeafV "np" "a", eLeafV "(np\\np)" "b"]]),
   (2, .node (lit "lx") (lit "(s:dcl\\np)") [lit "(s:dcl\\np)"]
        [.node (lit "lp") (lit "(s:dcl\\np)") []
          [eLeafV "comma" ",",
           .node (lit "fc") (lit "(s:dcl\\np)") [] [eLeafV "(s:dcl\\np)" "c", eLeafV "np" "d"]]])]

private theorem ePrinted : prologEn eBatch = .ok eText := by
  unfold prologEn prologHeader
  simp only [eText, unlines, headerLines, List.cons_append, List.nil_append, List.map_cons, List.map_nil]
  decide_lit

private theorem eOK : ∀ ts ∈ eBatch, ∀ t ∈ ts, AllCats EnCatOK t ∧ AllToks EnTokOK t := by decide +kernel

example : (numbered eBatch).map (fun p => (p.1, viewPrologEn p.2)) = eViews := by decide +kernel

example : decPrologEn eText = some eViews := by
  simp only [eText, unlines, headerLines, List.cons_append, List.nil_append, List.map_cons, List.map_nil]
  decide_lit

example : decPrologEn eText = some ((numbered eBatch).map fun p => (p.1, viewPrologEn p.2)) :=
  prolog_en_decode eBatch eText eOK ePrinted

/-! Japanese: a unary node (`ADNext`), a binary node, a ternary feature with a `case` value, a
  surface form different from the word, part-of-speech tags, a quote in a field. -/

private def jNP : Cat :=
  .atom (lit "NP") (.tri (lit "case") (lit "ga") (lit "mod") (lit "nm") (lit "fin") (lit "f"))
private def jS : Cat :=
  .atom (lit "S") (.tri (lit "mod") (lit "nm") (lit "form") (lit "base") (lit "fin") (lit "t"))
private def jVP : Cat := .fn jS cBSlash jNP

private def jT : Tree :=
  .bin jS (lit "ba") (lit "<") false
    (.un jNP (lit "other") (lit "ADNext")
      (.leaf jNP [(lit "word", lit "it's"), (lit "pos", lit "名詞"), (lit "pos1", lit "一般")] (lit "lex") (lit "<lex>")))
    (.leaf jVP [(lit "word", lit "w"), (lit "surf", lit "su"), (lit "base", lit "b"),
                (lit "inflectionForm", lit "f"), (lit "inflectionType", lit "y")] (lit "lex") (lit "<lex>"))

private def jText : Str := unlines (headerLines ++
  ["ccg(1,",
   " ba(s,",
   "  adnext(np:ga,",
   "   t(np:ga, 'it\\'s', '*', '名詞/一般/*/*', '*', '*')),",
   "  t((s\\np:ga), 'su', 'b', '*', 'f', 'y'))).",
   ""])

private def jViews : List (Nat × PView) :=
  [(1, .node (lit "ba") (lit "s") []
        [.node (lit "adnext") (lit "np:ga") []
          [.leaf (lit "np:ga") [lit "it's", lit "*", lit "名詞/一般/*/*", lit "*", lit "*"]],
         .leaf (lit "(s\\np:ga)") [lit "su", lit "b", lit "*", lit "f", lit "y"]])]

private theorem jPrinted : prologJa [[jT]] = .ok jText := by
  unfold prologJa prologHeader
  simp only [jText, unlines, headerLines, List.cons_append, List.nil_append, List.map_cons, List.map_nil]
  decide_lit

private theorem jOK : ∀ ts ∈ [[jT]], ∀ t ∈ ts, AllCats JaCatOK t ∧ AllToks JaTokOK t := by decide +kernel

example : decPrologJa jText = some jViews := by
  simp only [jText, unlines, headerLines, List.cons_append, List.nil_append, List.map_cons, List.map_nil]
  decide_lit

example : decPrologJa jText = some ((numbered [[jT]]).map fun p => (p.1, viewPrologJa p.2)) :=
  prolog_ja_decode [[jT]] jText jOK jPrinted

/-- a word ending with a backslash swallows the closing quote (`'a\\'`): the text does not read back -/
example : (prologEn [[eLeaf eNP "a\\"]]).toOption.bind decPrologEn ≠ some [(1, viewPrologEn (eLeaf eNP "a\\"))] ∧
    (prologEn [[eLeaf eNP "a\\"]]).toOption.isSome := by unfold prologEn prologHeader; decide_lit

/-- `pos`, `chunk`, `entity` are printed between quotes without escaping: with a quote inside, two
    different leaves (different `pos`, different `chunk`) have the same text -/
example :
    let t1 : Tree := .leaf eNP [(lit "word", lit "w"), (lit "pos", lit "x', 'y"), (lit "chunk", lit "z")] [] []
    let t2 : Tree := .leaf eNP [(lit "word", lit "w"), (lit "pos", lit "x"), (lit "chunk", lit "y', 'z")] [] []
    prologEn [[t1]] = prologEn [[t2]] ∧ viewPrologEn t1 ≠ viewPrologEn t2 := by
  unfold prologEn prologHeader; decide_lit

/-- a comma outside parentheses in a category spelling is taken for the end of the argument -/
example :
    let t : Tree := .leaf (.atom (lit "a,b") (.un none)) [(lit "word", lit "w")] [] []
    (prologJa [[t]]).toOption.bind decPrologJa ≠ some [(1, viewPrologJa t)] ∧ (prologJa [[t]]).toOption.isSome := by
  unfold prologJa prologHeader; decide_lit

/-- what the view does not carry: `fx` and `fc` are both printed `fc(` -/
example : viewPrologEn (.bin eVP (lit "fx") [] true (eLeaf eVP "c") (eLeaf eNP "d")) =
    viewPrologEn (.bin eVP (lit "fc") [] true (eLeaf eVP "c") (eLeaf eNP "d")) := by decide +kernel

end examples

end Depccg.C07
