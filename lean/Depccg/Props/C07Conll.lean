/-
  C07, the `conll` format: the independent reader `Read.decConll` reads back every printed table
  to the view of the tree (ids, words in escaped spelling, lemma, the two tag columns, the head
  column implied by the head flags, the leaf categories, the AUTO fragments); hence trees with the
  same table have the same view; the table is a well-formed dependency table; the fragments are
  the AUTO line.
-/
import Depccg.Props.C07ConllDefs
import Depccg.Props.C07
import Depccg.Proofs.C07ConllLemmas
import Depccg.Proofs.Lit

namespace Depccg.C07
open Depccg Str Print Read TextProps

/-- every printed table reads back to the view of the tree -/
theorem conll_decode : ConllDecodeStatement := by
  intro t text hc ht hs
  rw [cn_conllOf_render t text hs]
  exact cn_decConll_render _ (cn_viewConll_ne_nil t)
    ((cn_viewConll_ok_iff t).2 ⟨hc, ht⟩)

/-- the hypotheses of `conll_decode` are necessary: the table of a tree reads back to the view, or
    to any table with one row per word, only if they hold -/
theorem conll_decode_iff : ConllDecodeIffStatement := by
  intro t text hs
  have hconv : ∀ rows, decConll text = some rows → rows.length = t.numLeaves →
      AllCats (fun c => Cell c.str) t ∧ AllToks TokCells t := by
    intro rows hd hl
    rw [cn_conllOf_render t text hs] at hd
    have hok := cn_rows_ok_of_dec (viewConll t) rows (cn_viewConll_ne_nil t)
      (by rw [hl, cn_viewConll_length]) hd
    exact (cn_viewConll_ok_iff t).1 hok
  refine ⟨⟨fun hd => hconv _ hd (cn_viewConll_length t),
      fun h => conll_decode t text h.1 h.2 hs⟩,
    ⟨fun ⟨rows, hd, hl⟩ => hconv rows hd hl,
      fun h => ⟨_, conll_decode t text h.1 h.2 hs, cn_viewConll_length t⟩⟩⟩

/-- `conll_decode` under the hypotheses of the text round trips (`CatOK` / `TokOK`) -/
theorem conll_decode_ok : ConllDecodeOKStatement := fun t text hc ht hs =>
  conll_decode t text (cn_cell_of_catOK hc)
    (cn_tokCells_of_tokOK ht) hs

theorem conll_injective : ConllInjectiveStatement := fun t t' text hc ht hc' ht' hs hs' =>
  Option.some.inj ((conll_decode t text hc ht hs).symm.trans (conll_decode t' text hc' ht' hs'))

/-- the view: one row per word, numbered from 1; the head column is `_resolve_dependencies`, that
    is (by `conll_heads`) 0 for the head word of the tree and otherwise the attachment the head
    flags make -/
theorem conll_view : ConllViewStatement := by
  intro t
  obtain ⟨-, -, hroot, hdep, -⟩ := conll_heads t
  refine ⟨cn_viewConll_length t, ?_, cn_viewConll_heads t, ?_⟩
  · rw [cn_viewConll_ids, List.range'_eq_map_range]
    exact List.map_congr_left fun _ _ => Nat.add_comm ..
  · intro i r hr
    obtain ⟨hlt, _, hh⟩ := cn_viewConll_row t i r hr
    by_cases hi : i = headIdx t 0
    · subst hi
      rw [hroot] at hh
      have h0 : r.head = 0 := by simpa [depNum] using hh.symm
      exact ⟨⟨fun _ => rfl, fun _ => h0⟩, fun hne => absurd h0 hne⟩
    · obtain ⟨j, hj, hm⟩ := hdep i hlt hi
      rw [hj] at hh
      have h1 : r.head = j + 1 := by simpa [depNum] using hh.symm
      exact ⟨⟨fun h0 => by omega, fun h => absurd h hi⟩, fun _ => ⟨j, h1, hm⟩⟩

/-- the token columns are those of the leaves, in order -/
theorem conll_columns : ConllColumnsStatement := fun t => cn_viewRows_columns t 0 0 [] 0

/-- the table that was read is a well-formed dependency table of the sentence -/
theorem conll_rows : ConllRowsStatement := by
  intro t text hc ht hs
  obtain ⟨hlen, hids, _, hrow⟩ := conll_view t
  have hroots : ((viewConll t).filter fun r => r.head == 0).length = 1 :=
    (cn_viewConll_roots t).trans (conll_heads t).2.2.2.2
  have hheads : ∀ r ∈ viewConll t, r.head ≤ t.numLeaves ∧ r.head ≠ r.id := by
    intro r hr
    obtain ⟨i, hi⟩ := List.mem_iff_getElem?.1 hr
    obtain ⟨_, hid, _⟩ := cn_viewConll_row t i r hi
    by_cases h0 : r.head = 0
    · omega
    · obtain ⟨j, hj, hm⟩ := (hrow i r hi).2 h0
      have := attachments_in_span t 0 (i, j) hm
      simp only at this
      omega
  refine ⟨viewConll t, conll_decode t text hc ht hs, hlen, hids, hroots,
    fun r hr hne => by have := hheads r hr; omega, ?_⟩
  have hnum : conllNumberedFrom 1 (viewConll t) = true :=
    (cn_numberedFrom_iff _ 1).2 (by rw [hlen]; exact cn_viewConll_ids t)
  simp only [conllValidTable, conllValidHeads, hnum, hroots, Bool.true_and, beq_self_eq_true,
    List.all_eq_true, Bool.and_eq_true, decide_eq_true_eq, bne_iff_ne, ne_eq, hlen]
  exact hheads

/-- the fragments joined by blanks are the AUTO line -/
theorem conll_fragments_view : ConllFragmentsViewStatement := fun t =>
  ⟨cn_viewConll_frags t, cn_viewConll_frags_autoOf t⟩

/-! ### the hypotheses are satisfiable: three words; the root takes its head from the RIGHT, the
  verb phrase from the LEFT; a unary node over the last word; a token without lemma and tag (the
  `_` defaults), a bracket word (escaped spelling) -/

section examples

private def kN : Cat := .atom (lit "N") (.un none)
private def kNP : Cat := .atom (lit "NP") (.un none)
private def kS : Cat := .atom (lit "S") (.un (some (lit "dcl")))
private def kVP : Cat := .fn kS cBSlash kNP
private def kTV : Cat := .fn kVP cSlash kNP

private def kTree : Tree :=
  .bin kS (lit "ba") (lit "<") false
    (.leaf kNP [(lit "word", lit "Kim")] (lit "lex") (lit "<lex>"))
    (.bin kVP (lit "fa") (lit ">") true
      (.leaf kTV [(lit "word", lit "sees"), (lit "lemma", lit "see"), (lit "pos", lit "VBZ")]
        (lit "lex") (lit "<lex>"))
      (.un kNP (lit "lex") (lit "<un>")
        (.leaf kN [(lit "word", lit "("), (lit "pos", lit "NN")] (lit "lex") (lit "<lex>"))))

private def kFrag1 : Str := lit "(<T S[dcl] 1 2> (<L NP _ _ Kim NP>)"
private def kFrag2 : Str :=
  lit "(<T S[dcl]\\NP 0 2> " ++ lit "(<L (S[dcl]\\NP)/NP VBZ VBZ sees (S[dcl]\\NP)/NP>)"
private def kFrag3 : Str := lit "(<T NP 0 1> (<L N NN NN -LRB- N>) ) ) )"

private def kText : Str :=
  lit "1\tKim\t_\t_\t_\t_\t2\tNP\t_\t" ++ kFrag1 ++ lit "\n" ++
  lit "2\tsees\tsee\tVBZ\tVBZ\t_\t0\t(S[dcl]\\NP)/NP\t_\t" ++ kFrag2 ++ lit "\n" ++
  lit "3\t-LRB-\t_\tNN\tNN\t_\t2\tN\t_\t" ++ kFrag3

private def kRows : List ConllRow :=
  [⟨1, lit "Kim", lit "_", lit "_", lit "_", 2, lit "NP", kFrag1⟩,
   ⟨2, lit "sees", lit "see", lit "VBZ", lit "VBZ", 0, lit "(S[dcl]\\NP)/NP", kFrag2⟩,
   ⟨3, lit "-LRB-", lit "_", lit "NN", lit "NN", 2, lit "N", kFrag3⟩]

private theorem kCats : AllCats (fun c => Cell c.str) kTree := by
  simp only [kTree, AllCats, Cell]; decide +kernel

private theorem kToks : AllToks TokCells kTree :=
  ⟨cn_tokCells_of_all (by simp only [Cell]; decide +kernel),
   cn_tokCells_of_all (by simp only [Cell]; decide +kernel),
   cn_tokCells_of_all (by simp only [Cell]; decide +kernel)⟩

private theorem kPrinted : conllOf kTree = .ok kText := by
  unfold kText kFrag1 kFrag2 kFrag3; decide_lit

example : viewConll kTree = kRows := by unfold kRows kFrag1 kFrag2 kFrag3; decide_lit

example : decConll kText = some kRows := by
  unfold kText kRows kFrag1 kFrag2 kFrag3; decide_lit

example : decConll kText = some (viewConll kTree) := conll_decode kTree kText kCats kToks kPrinted

example : conllValidTable kRows = true := by decide +kernel

example : ∃ rows, decConll kText = some rows ∧ rows.length = 3 ∧
    rows.map (·.id) = [1, 2, 3] ∧ conllValidTable rows = true := by
  obtain ⟨rows, h1, h2, h3, _, _, h6⟩ := conll_rows kTree kText kCats kToks kPrinted
  exact ⟨rows, h1, h2, h3, h6⟩

example : headIdx kTree 0 = 1 ∧ attachments kTree 0 = [(2, 1), (0, 1)] := by decide +kernel

example : sp (kRows.map (·.fragment)) =
    lit "(<T S[dcl] 1 2> (<L NP _ _ Kim NP>) (<T S[dcl]\\NP 0 2> " ++
    lit "(<L (S[dcl]\\NP)/NP VBZ VBZ sees (S[dcl]\\NP)/NP>) (<T NP 0 1> (<L N NN NN -LRB- N>) ) ) )" := by
  unfold kRows kFrag1 kFrag2 kFrag3; decide_lit

/-- `autoOf` differs from the joined fragments exactly at the token without a tag (`POS` there, `_`
    in the table) -/
example : autoOf kTree = .ok (
    lit "(<T S[dcl] 1 2> (<L NP POS POS Kim NP>) (<T S[dcl]\\NP 0 2> " ++
    lit "(<L (S[dcl]\\NP)/NP VBZ VBZ sees (S[dcl]\\NP)/NP>) (<T NP 0 1> (<L N NN NN -LRB- N>) ) ) )") := by
  decide_lit

/-- columns may be empty and may contain blanks: the hypotheses ask for nothing more than
    "no TAB, no newline" -/
example :
    let t : Tree := .leaf kNP [(lit "word", lit "New York"), (lit "lemma", [])] (lit "lex") (lit "<lex>")
    conllOf t = .ok (lit "1\tNew York\t\t_\t_\t_\t0\tNP\t_\t(<L NP _ _ New York NP>)") ∧
    decConll (lit "1\tNew York\t\t_\t_\t_\t0\tNP\t_\t(<L NP _ _ New York NP>)") = some (viewConll t) := by
  decide_lit

/-- the hypotheses are needed: a TAB inside a word gives a line with twelve columns (the word is
    printed in column 2 and again inside the fragment), which the reader rejects; a newline inside
    a lemma gives a line with three columns -/
example :
    let t : Tree := .leaf kNP [(lit "word", lit "a\tb")] (lit "lex") (lit "<lex>")
    (conllOf t).map decConll = .ok none := by
  decide +kernel

example :
    let t : Tree := .leaf kNP [(lit "word", lit "a"), (lit "lemma", lit "x\ny")] (lit "lex") (lit "<lex>")
    (conllOf t).map decConll = .ok none := by
  decide +kernel

/-- the reader is strict about the layout: a missing column, a head that is not a number, a
    number with a leading zero, a column 6 that is not `_`, a trailing newline -/
example : decConll (lit "1\tKim\t_\t_\t_\t_\t0\tNP\t_") = none := by decide_lit
example : decConll (lit "1\tKim\t_\t_\t_\t_\t-1\tNP\t_\tx") = none := by decide_lit
example : decConll (lit "01\tKim\t_\t_\t_\t_\t0\tNP\t_\tx") = none := by decide_lit
example : decConll (lit "1\tKim\t_\t_\t_\tx\t0\tNP\t_\tx") = none := by decide_lit
example : decConll (lit "1\tKim\t_\t_\t_\t_\t0\tNP\t_\tx\n") = none := by decide_lit
example : decConll (lit "1\tKim\t_\t_\t_\t_\t0\tNP\t_\tx") =
    some [⟨1, lit "Kim", lit "_", lit "_", lit "_", 0, lit "NP", lit "x"⟩] := by decide_lit

/-- what the table does NOT carry (the view forgets it): the rule labels and symbols of the
    nodes, the other token attributes, the difference between a bracket and its escaped spelling,
    between a missing lemma / tag and the value `_` — two different trees, one table -/
example :
    let t1 : Tree := .leaf kNP [(lit "word", lit "("), (lit "entity", lit "O")] (lit "lex") (lit "<lex>")
    let t2 : Tree := .leaf kNP [(lit "word", lit "-LRB-"), (lit "lemma", lit "_"), (lit "pos", lit "_")] [] []
    t1 ≠ t2 ∧ conllOf t1 = conllOf t2 ∧ viewConll t1 = viewConll t2 := by
  decide +kernel

end examples

end Depccg.C07
