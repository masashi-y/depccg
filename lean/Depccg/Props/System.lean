/-
  The two feature systems are closed under their grammars, and the category table of a run over a
  one-system lexicon stays inside the system — so no rule-function call the search makes raises.
-/
import Depccg.Props.Lazy
import Depccg.Props.SystemDefs
import Depccg.Proofs.SystemLemmas

namespace Depccg.SystemProps
open Depccg Search GlueRun Lazy GlueRunProps LazyProps C14

/-- English binary rules: plain-feature, named-atom categories in, such categories out -/
theorem en_system_closed : EnSystemClosedStatement :=
  fun _ _ _ _ hx hy h => Closure.en_applyBinary_closed inEn_iff inEn_ruleClosed hx hy h

/-- Japanese binary rules: three-part-feature categories in, such categories out -/
theorem ja_system_closed : JaSystemClosedStatement :=
  fun _ _ _ _ hx hy h => Closure.ja_applyBinary_closed inJa_iff inJa_ruleClosed hx hy h

/-- English unary rules return targets of the table -/
theorem en_unary_system_closed : EnUnarySystemClosedStatement :=
  fun _ _ ht => Closure.en_applyUnary_closed ht

/-- Japanese unary rules return targets of the table -/
theorem ja_unary_system_closed : JaUnarySystemClosedStatement :=
  fun _ _ _ ht h => Closure.ja_applyUnary_closed ht h

theorem history_in_system : HistoryInSystemStatement :=
  fun en seen _ gst calls ht hg => sy_foldl (sy_shipped_closed en seen ht) calls gst hg

/-- the category table of a lazy run stays inside the system -/
theorem lazy_table_in_system : LazyTableInSystemStatement := by
  intro pick en seen table gst s cfg ht hg
  obtain ⟨calls, hc⟩ := lazy_reachable pick (OutputWF.shipped en seen table) gst s cfg
  rw [hc]
  exact history_in_system en seen table gst calls ht hg

/-- on any two categories the table ever holds, the raw rule functions return normally -/
theorem lazy_no_raise : LazyNoRaiseStatement := by
  intro pick en seen table gst s cfg ht hg x hx y hy
  exact sy_noRaise en seen table (lazy_table_in_system pick en seen table gst s cfg ht hg x hx)
    (lazy_table_in_system pick en seen table gst s cfg ht hg y hy)

/-- the initial table of a `run` call is inside the system -/
theorem init_in_system : InitInSystemStatement :=
  fun _ categories roots hc hr => sy_addRoots_mem roots categories hc hr

end Depccg.SystemProps
