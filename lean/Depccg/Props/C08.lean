/-
  C08  AUTO text written by depccg reads back to the same tree; the last column of the conll table
  (the view rows of Depccg/Proofs/C07ConllLemmas.lean), joined by blanks, is the AUTO line.
-/
import Depccg.Props.C08Defs
import Depccg.Proofs.C07ConllLemmas
import Depccg.Proofs.Lit

namespace Depccg.C08
open Depccg Str Print Read TextProps

/-- `autoOf` and `conllOf` never fail on trees whose tokens have a word (the statement asks for
    `TokOK`; only the word is used) -/
theorem auto_total : AutoTotalStatement := fun t h =>
  have hw : AllToks C19.HasWord t := h.mono fun _ h => h.1
  ⟨⟨_, autoOf_fields hw⟩, ⟨_, C07.cn_conllOf_eq t hw⟩⟩

theorem auto_image_skel : AutoImageSkelStatement := fun _ _ _ h => autoImage_skel h

theorem auto_reprint : AutoReprintStatement := fun _ _ _ _ _ hs hi => autoOf_image hs hi

/-- reading a printed AUTO line yields the image of the tree, and the reader's token list is the
    token list of that tree -/
theorem auto_roundtrip : AutoRoundtripStatement := by
  intro lang t s hc ho ht hs
  exact ⟨_, autoImage_eq lang (catOK_wf hc) ho (ht.mono fun _ h => h.1), readAutoLine_printed lang t s hc ho ht hs⟩

/-- the last conll column, joined by blanks, is the AUTO line -/
theorem conll_fragments : ConllFragmentsStatement := fun t s c htok hpos hcat hs hc => by
  rw [C07.lastColumns_conllOf t c (C07.cn_cell_of_catOK hcat)
    (C07.cn_tokCells_of_tokOK htok) hc]
  exact C07.cn_viewConll_frags_autoOf t s hpos hs

/-- every well-formed category is left alone by the CCGbank repair -/
theorem fixcat_id : FixCatIdStatement := fun c hc => fixCat_of_endsOK (endsOK_str c hc)

section examples

private def cNP : Cat := .atom (lit "NP") (.un none)
private def cS : Cat := .atom (lit "S") (.un (some (lit "dcl")))
private def cVP : Cat := .fn cS cBSlash cNP

private def exTree : Tree :=
  .bin cS (lit "ba") (lit "<") false
    (.leaf cNP [(lit "word", lit "("), (lit "pos", lit "NN")] (lit "lex") (lit "<lex>"))
    (.leaf cVP (Token.ofWord (lit "runs")) (lit "lex") (lit "<lex>"))

private theorem wfNP : C05.WF cNP :=
  ⟨⟨by decide, by decide⟩, trivial, fun _ => rfl⟩

private theorem wfS : C05.WF cS :=
  ⟨⟨by decide +kernel, by decide +kernel⟩,
   ⟨⟨by decide +kernel, by decide +kernel⟩, by decide +kernel⟩, by decide +kernel⟩

private theorem wfVP : C05.WF cVP := ⟨wfS, by decide, wfNP⟩

private theorem okNP : CatOK cNP := ⟨wfNP, fixcat_id cNP wfNP, by decide +kernel⟩
private theorem okS : CatOK cS := ⟨wfS, fixcat_id cS wfS, by decide +kernel⟩
private theorem okVP : CatOK cVP := ⟨wfVP, fixcat_id cVP wfVP, by decide +kernel⟩

private theorem exCats : AllCats CatOK exTree := ⟨okS, okNP, okVP⟩

private theorem exSys : AllCats (OneSystem .en) exTree := ⟨trivial, trivial, trivial, trivial⟩

private theorem exToks : AllToks TokOK exTree := by
  refine ⟨⟨⟨_, rfl⟩, ?_⟩, ⟨⟨_, rfl⟩, ?_⟩⟩ <;> (simp only [PlainWord]; decide)

private theorem exLine :
    autoOf exTree = .ok (lit "(<T S[dcl] 1 2> (<L NP NN NN -LRB- NP>) (<L S[dcl]\\NP XX XX runs S[dcl]\\NP>) )") := by
  decide_lit

/-- the image: the bracket word in its escaped spelling, reduced tokens, the guessed label -/
private def exImage : Tree :=
  .bin cS (lit "ba") (lit "<") false
    (Tree.mkTerminal (autoToken (lit "-LRB-") (lit "NN") (lit "NN")) cNP)
    (Tree.mkTerminal (autoToken (lit "runs") (lit "XX") (lit "XX")) cVP)

private theorem exImage_eq : autoImage .en exTree = .ok exImage := by decide +kernel

example : readAutoLine .en
    (lit "(<T S[dcl] 1 2> (<L NP NN NN -LRB- NP>) (<L S[dcl]\\NP XX XX runs S[dcl]\\NP>) )") =
    .ok (exImage, exImage.tokens) := by decide_lit

example : ∃ t', autoImage .en exTree = .ok t' ∧
    readAutoLine .en
      (lit "(<T S[dcl] 1 2> (<L NP NN NN -LRB- NP>) (<L S[dcl]\\NP XX XX runs S[dcl]\\NP>) )") =
      .ok (t', t'.tokens) :=
  auto_roundtrip .en exTree _ exCats exSys exToks exLine

example : autoOf exImage =
    .ok (lit "(<T S[dcl] 1 2> (<L NP NN NN -LRB- NP>) (<L S[dcl]\\NP XX XX runs S[dcl]\\NP>) )") :=
  auto_reprint .en exTree exImage _ exToks exLine exImage_eq

example : autoOf exImage =
    .ok (lit "(<T S[dcl] 1 2> (<L NP NN NN -LRB- NP>) (<L S[dcl]\\NP XX XX runs S[dcl]\\NP>) )") := by
  decide_lit

example : skel exImage = skel exTree := auto_image_skel .en exTree exImage exImage_eq

private theorem exConll : conllOf exTree = .ok (lit
    ("1\t-LRB-\t_\tNN\tNN\t_\t2\tNP\t_\t(<T S[dcl] 1 2> (<L NP NN NN -LRB- NP>)\n" ++
     "2\truns\tXX\tXX\tXX\t_\t0\tS[dcl]\\NP\t_\t(<L S[dcl]\\NP XX XX runs S[dcl]\\NP>) )")) := by
  decide_lit

example : lastColumns (lit
    ("1\t-LRB-\t_\tNN\tNN\t_\t2\tNP\t_\t(<T S[dcl] 1 2> (<L NP NN NN -LRB- NP>)\n" ++
     "2\truns\tXX\tXX\tXX\t_\t0\tS[dcl]\\NP\t_\t(<L S[dcl]\\NP XX XX runs S[dcl]\\NP>) )")) =
    [lit "(<T S[dcl] 1 2> (<L NP NN NN -LRB- NP>)", lit "(<L S[dcl]\\NP XX XX runs S[dcl]\\NP>) )"] := by
  decide_lit

private theorem exPos : AllToks (fun tok => ∃ p, Token.get? tok (lit "pos") = some p) exTree :=
  ⟨⟨_, rfl⟩, ⟨_, rfl⟩⟩

example : joinSep cSpace (lastColumns (lit
    ("1\t-LRB-\t_\tNN\tNN\t_\t2\tNP\t_\t(<T S[dcl] 1 2> (<L NP NN NN -LRB- NP>)\n" ++
     "2\truns\tXX\tXX\tXX\t_\t0\tS[dcl]\\NP\t_\t(<L S[dcl]\\NP XX XX runs S[dcl]\\NP>) )"))) =
    lit "(<T S[dcl] 1 2> (<L NP NN NN -LRB- NP>) (<L S[dcl]\\NP XX XX runs S[dcl]\\NP>) )" :=
  conll_fragments exTree _ _ exToks exPos exCats exLine exConll

/-- the hypothesis on `pos` is needed: without it the conll column carries `_` where the AUTO
    line carries `POS` -/
example :
    let t : Tree := .leaf cNP [(lit "word", lit "it")] (lit "lex") (lit "<lex>")
    autoOf t = .ok (lit "(<L NP POS POS it NP>)") ∧
    (conllOf t).map lastColumns = .ok [lit "(<L NP _ _ it NP>)"] := by
  decide_lit

/-- the repair is the identity on the example categories, by the theorem; it is not on the
    CCGbank spellings it is meant for -/
example : fixCat cVP.str = cVP.str := fixcat_id cVP wfVP
example : fixCat (lit "(S\\NP)[conj]") = lit "(S\\NP)" := by decide +kernel
example : fixCat (lit "NP[conj]") = lit "NP[conj]" := by decide +kernel

end examples

end Depccg.C08
