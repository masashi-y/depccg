/-
  C09  Reported score is the model score of the returned tree.  For the search with any admissible
  agenda: `score_accounting` (SearchBasics.lean); for the agenda of the real code SearchHeap.lean,
  for the trees the caller receives C12Glue.lean, LazySearch.lean, TreeLevel.lean
  (`lean/obligations.json` lists them all).
-/
import Depccg.Props.SearchBasics
