/-
  C19 at the level of the program for `--format xml` and `--format jigg_xml`; the four statements hold as written.

  * XML text (`Xml.xmlStrOk` of the printed category) is closed under both shipped grammars: the
    rule functions build every category out of atoms, features and slashes of their arguments and
    of the fixed categories `(S\NP)\(S\NP)`, `(S\NP)/(S\NP)` with the slashes `/` and `\`.
  * `Category.parse` builds a category out of pieces of its text and the three slash characters.
  * Hence every attribute value of the two documents — categories (also in the `[f=true]` spelling
    of the Jigg format), rule labels and symbols (fixed tables), token values (fields of the input
    lines), identifiers, numbers and scores — is XML text, and `element.set` never refuses one;
    no n-best list is empty, so `parsed[0]` of `to_jigg_xml` is there.
  * The hypothesis is needed: the one-word sentence U+0001 prints under `--format auto` and makes
    `--format xml` fail with `ValueError`.
-/
import Depccg.Props.MainTotalXmlDefs
import Depccg.Proofs.MainTotalXmlLemmas
import Depccg.Proofs.ProgramParseLemmas

namespace Depccg.CliProps
open Depccg Str Search GlueRun Lazy Print Cli LazyProps Xml

theorem shipped_xml_closed : ShippedXmlClosedStatement :=
  fun en seen _ ht => shipped_closed xm_xmlCat_iff xm_ruleClosed en seen ht

theorem parse_xml_cat : ParseXmlCatStatement := fun s c hs h =>
  (xm_xmlCat_iff c).2 <| ProgramProps.parse_inv (fun t => xmlStrOk t = true) (fun _ => xm_slashCode)
    (fun _ ht _ => ⟨ht, xm_none⟩) (fun _ _ _ ht _ _ hu hf => ⟨ht, xm_feat_parse hu hf⟩)
    (fun t ht => xm_ok_of_sub (ProgramProps.tokenize_spec s t ht).2 hs) h

theorem main_total_xml : MainTotalXmlStatement := by
  intro en seen table o lines tagCats scores roots categories doc hr hd hc hnd hlex hfmt hlines htags _ htable
  obtain ⟨results, e, hne, htrees⟩ := main_reduce (OutputWF.shipped en seen table) o hr hd hc hnd hlex
  rw [e]
  refine xm_printText_total _ _ hfmt hne fun r hr' ts hts => ?_
  rcases htrees r hr' ts hts with e | ⟨hlic, htok, hleaf⟩
  · rw [e]
    exact xm_placeholder
  · refine ⟨Closure.licensed_allCats (shipped_xml_closed en seen table htable) hlic fun c hc' => ?_,
      TextProps.allToks_iff.2 (xm_doc hlines hd _ htok), xm_labels hlic⟩
    obtain ⟨s, hs, hsc⟩ := mapExcept_mem hc c (hleaf c hc')
    exact parse_xml_cat s c (htags s hs) hsc

theorem main_xml_refuses : MainXmlRefusesStatement :=
  ⟨XmlCounter.o, XmlCounter.lines, [lit "NP"], XmlCounter.scores, rfl, ⟨_, XmlCounter.auto_ok⟩, XmlCounter.xml_fails⟩

end Depccg.CliProps
