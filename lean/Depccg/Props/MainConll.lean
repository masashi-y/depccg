/-
  `--format conll` at the level of the whole output: the reader `Read.decConllDoc`
  (Depccg/Read/ConllDoc.lean) splits the text that `to_string(…, format='conll')` / `print_` emits
  into its records and reads every table with the row reader of `conll_decode`: sentence numbers,
  n-best order, score texts and rows of every printed tree.
-/
import Depccg.Proofs.CliLemmas
import Depccg.Props.MainConllDefs
import Depccg.Proofs.MainConllLemmas

namespace Depccg.CliProps
open Depccg Str Search GlueRun Lazy Print Cli LazyProps Read C07 TextProps

/-- the text of `to_string(batch, format='conll')` is read back record by record -/
theorem conll_doc_decode : ConllDocDecodeStatement := by
  intro batch text h hp
  simpa using mc_run_doc batch text h hp [] rfl

/-- what `main` prints under `--format conll` (the text of `to_string` and the newline of `print`)
    is read back: one record per returned tree, named by sentence, with its score text -/
theorem main_conll_reads_back : MainConllReadsBackStatement := by
  intro results text hok hp
  obtain ⟨t, ht, rfl⟩ := printText_record_inv (.inr (.inl rfl)) hp
  exact mc_run_doc (results.map scored) t (List.forall_mem_map.2 fun r hr p hpm =>
    ⟨(hok r hr p hpm).1, (hok r hr p hpm).2, (scored_scoreOK r p hpm).1⟩) ht [10] rfl

/-! Two sentences, the first with two trees (which differ in the analysis of `Kim`
  and in the head flag of the root), the second failed (the placeholder, score text `-inf`) -/

section examples

private def kN : Cat := .atom (lit "N") (.un none)
private def kNP : Cat := .atom (lit "NP") (.un none)
private def kS : Cat := .atom (lit "S") (.un (some (lit "dcl")))
private def kVP : Cat := .fn kS cBSlash kNP

private def kSleeps : Tree :=
  .leaf kVP [(lit "word", lit "sleeps"), (lit "lemma", lit "sleep"), (lit "pos", lit "VBZ")]
    (lit "lex") (lit "<lex>")

private def kTree1 : Tree :=
  .bin kS (lit "ba") (lit "<") false (.leaf kNP [(lit "word", lit "Kim")] (lit "lex") (lit "<lex>")) kSleeps

private def kTree2 : Tree :=
  .bin kS (lit "ba") (lit "<") true
    (.un kNP (lit "lex") (lit "<un>") (.leaf kN [(lit "word", lit "Kim")] (lit "lex") (lit "<lex>"))) kSleeps

private def kResults : List SentResult := [.parsed [(kTree1, -32), (kTree2, -100)], .failed]

private def kFragV : Str := lit "(<L S[dcl]\\NP VBZ VBZ sleeps S[dcl]\\NP>) )"

private def kText : Str :=
  lit "# ID=1\n# log probability=-0.50000000\n" ++
  lit "1\tKim\t_\t_\t_\t_\t2\tNP\t_\t(<T S[dcl] 1 2> (<L NP _ _ Kim NP>)\n" ++
  lit "2\tsleeps\tsleep\tVBZ\tVBZ\t_\t0\tS[dcl]\\NP\t_\t" ++ kFragV ++ lit "\n" ++
  lit "# ID=1\n# log probability=-1.56250000\n" ++
  lit "1\tKim\t_\t_\t_\t_\t0\tN\t_\t(<T S[dcl] 0 2> (<T NP 0 1> (<L N _ _ Kim N>) )\n" ++
  lit "2\tsleeps\tsleep\tVBZ\tVBZ\t_\t1\tS[dcl]\\NP\t_\t" ++ kFragV ++ lit "\n" ++
  lit "# ID=2\n# log probability=-inf\n" ++
  lit "1\tFAILED\t_\t_\t_\t_\t0\tNP\t_\t(<L NP _ _ FAILED NP>)\n" ++
  lit "\n"

private def kRecords : List (Nat × Str × List ConllRow) :=
  [(1, lit "-0.50000000",
    [⟨1, lit "Kim", lit "_", lit "_", lit "_", 2, lit "NP", lit "(<T S[dcl] 1 2> (<L NP _ _ Kim NP>)"⟩,
     ⟨2, lit "sleeps", lit "sleep", lit "VBZ", lit "VBZ", 0, lit "S[dcl]\\NP", kFragV⟩]),
   (1, lit "-1.56250000",
    [⟨1, lit "Kim", lit "_", lit "_", lit "_", 0, lit "N", lit "(<T S[dcl] 0 2> (<T NP 0 1> (<L N _ _ Kim N>) )"⟩,
     ⟨2, lit "sleeps", lit "sleep", lit "VBZ", lit "VBZ", 1, lit "S[dcl]\\NP", kFragV⟩]),
   (2, lit "-inf",
    [⟨1, lit "FAILED", lit "_", lit "_", lit "_", 0, lit "NP", lit "(<L NP _ _ FAILED NP>)"⟩])]

example : printText Fmt.conll kResults = .ok kText ∧ decConllDoc kText = some kRecords ∧
    conllExpected kResults = kRecords := by unfold kText kRecords kFragV; decide_lit

/-- the reader is strict: text before the first record, a sentence number with a leading zero, a
    missing score line, a record without a row, a comment line inside a table are rejected; empty
    lines between records are skipped and an empty line ends a table -/
example : decConllDoc (lit "x\n# ID=1\n# log probability=0\n1\ta\t_\t_\t_\t_\t0\tN\t_\tf\n") = none := by
  decide_lit
example : decConllDoc (lit "# ID=01\n# log probability=0\n1\ta\t_\t_\t_\t_\t0\tN\t_\tf\n") = none := by
  decide_lit
example : decConllDoc (lit "# ID=1\n1\ta\t_\t_\t_\t_\t0\tN\t_\tf\n") = none := by decide_lit
example : decConllDoc (lit "# ID=1\n# log probability=0\n\n") = none := by decide_lit
example : decConllDoc (lit "# ID=1\n# log probability=0\n1\ta\t_\t_\t_\t_\t0\tN\t_\tf\n# x\n") = none := by
  decide_lit
example : decConllDoc (lit "\n# ID=1\n# log probability=0\n1\ta\t_\t_\t_\t_\t0\tN\t_\tf\n\n\n# ID=2\n# log probability=\n1\tb\t_\t_\t_\t_\t0\tN\t_\tg") =
    some [(1, lit "0", [⟨1, lit "a", lit "_", lit "_", lit "_", 0, lit "N", lit "f"⟩]),
          (2, [], [⟨1, lit "b", lit "_", lit "_", lit "_", 0, lit "N", lit "g"⟩])] := by decide_lit

end examples

end Depccg.CliProps
