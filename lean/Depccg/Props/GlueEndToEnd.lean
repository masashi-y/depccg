/-
  The chain closed inside the model: callbacks (GlueRun) → cache `Represents` the rule functions
  (run_inv) → every tree handed to the caller is licensed by the rule functions (EndToEnd).
-/
import Depccg.Props.GlueRun
import Depccg.Props.EndToEnd
import Depccg.Props.SearchHeap

namespace Depccg.GlueRunProps
open Depccg Search SearchProps GlueTree GlueRun

/-- whatever sequence of rule-function calls produced the cache, whatever the search (any
    admissible agenda) returns over it becomes — through `retrieve_tree` — a tree licensed node by
    node by the very rule functions, over the sentence's tokens, with an allowed root. The `calls`
    are arbitrary, not those the search makes; `LazyProps.lazy_trees_licensed` is the statement for
    the run that makes its own calls -/
theorem glue_trees_licensed (pick : Pick) (G : GlueRun.CatGrammar) (categories roots : List Cat)
    (calls : List Call) (tokens : List Token) (s : Sent) (cfg : Cfg)
    (hc : categories.Nodup) (hp : PickOK pick) (hn : tokens.length = s.n) :
    let T := tablesOf (calls.foldl (step G) (init categories roots))
    ∀ r ∈ (runWith pick (grammarOf T) s cfg).results, ∀ t, retrieve T tokens r.d = .ok t →
      EndToEnd.TreeLicensed (toE2E G) t ∧ t.tokens = tokens ∧ (∃ rc ∈ s.roots, T.cats rc = some t.cat) := by
  intro T r hr t ht
  exact EndToEnd.run_trees_licensed pick (toE2E G) T tokens s cfg hp
    (run_inv' G categories roots calls hc).represents hn r hr t ht

/-- the same for the function the driver runs (`run`, the heap agenda of the real code) -/
theorem glue_run_trees_licensed (G : GlueRun.CatGrammar) (categories roots : List Cat)
    (calls : List Call) (tokens : List Token) (s : Sent) (cfg : Cfg)
    (hc : categories.Nodup) (hn : tokens.length = s.n) :
    let T := tablesOf (calls.foldl (step G) (init categories roots))
    ∀ r ∈ (run (grammarOf T) s cfg).results, ∀ t, retrieve T tokens r.d = .ok t →
      EndToEnd.TreeLicensed (toE2E G) t ∧ t.tokens = tokens ∧ (∃ rc ∈ s.roots, T.cats rc = some t.cat) :=
  glue_trees_licensed pickHeap G categories roots calls tokens s cfg hc pickHeap_ok hn

end Depccg.GlueRunProps
