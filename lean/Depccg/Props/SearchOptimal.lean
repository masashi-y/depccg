/-
  C01: optimality of the first parse and soundness of the failure report of the 1-best search,
  for a head-uniform grammar: instances of `first_optimal` (any `nbest`) and `failure_none`
  (`0 < nbest`) of `Depccg/Proofs/OptimalLemmas.lean`, which read both off the final state, plus a
  concrete instance.
-/
import Depccg.Props.SearchDefs
import Depccg.Props.SearchBasics
import Depccg.Proofs.OptimalLemmas

namespace Depccg.SearchProps
open Depccg Search

/-- C01 (optimality): the first parse returned by the 1-best search has the maximum model score
    among all licensed complete parses -/
theorem first_parse_optimal : FirstParseOptimalStatement :=
  fun _ _ _ _ hp hs hpen hu _ _ _ hres _ hd => first_optimal hu hs hpen hp hres hd

/-- C01 (failure): a 1-best search that stops with no result before its step budget is spent
    was given a sentence with no licensed complete parse -/
theorem failure_only_if_none : FailureOnlyIfNoneStatement :=
  fun _ _ _ _ hp hs hpen hu hn hres hsteps =>
    failure_none hu hs hpen hp (hn ▸ Nat.one_pos) hres hsteps

/-! ### non-vacuity: the theorems on the concrete sentence of `SearchBasics.lean` -/

namespace Demo

def cfg1 : Cfg := { cfg with nbest := 1 }

theorem headUniform : HeadUniform g := by
  refine Or.inr ?_
  intro x y r hr
  simp only [g] at hr
  split at hr
  · rw [List.mem_singleton] at hr; subst hr; rfl
  · cases hr

/-- the 1-best run returns the `N ⇒ NP` parse with score 17 … -/
example : (run g s cfg1).results.map (fun r => (r.d, r.prio)) =
    [(.bin 2 0 false (.un 0 0 (.leaf 0 3)) (.leaf 1 1), 17)] := run1_results

/-- … and no licensed complete parse of the sentence scores more than 17 -/
example : ∀ d, LicensedRoot g s cfg1 d → modelScore s cfg1 d ≤ 17 := by
  intro d hd
  have hprio : (runWith pickFirstMax g s cfg1).results.map Item.prio = [17] := by decide +kernel
  cases hres : (runWith pickFirstMax g s cfg1).results with
  | nil => rw [hres] at hprio; cases hprio
  | cons t rest =>
    rw [hres] at hprio
    simp only [List.map_cons, List.cons.injEq] at hprio
    have := first_parse_optimal pickFirstMax g s cfg1 pickFirstMax_ok sentOK (by decide) headUniform
      rfl t rest hres d hd
    omega

/-- a sentence whose tags cannot combine: the search fails, so no licensed complete parse exists -/
def sBad : Sent := { s with tags := [[1, -3, -5, -6], [-2, -7, -1, -4]], passes := [[true, false], [true, false]] }

theorem sentOK_bad : SentOK sBad := ⟨rfl, rfl, by decide, by decide, by decide⟩

example : (run g sBad cfg1).results = [] ∧ (run g sBad cfg1).steps = 2 := by decide +kernel

example : ¬ ∃ d, LicensedRoot g sBad cfg1 d :=
  failure_only_if_none pickFirstMax g sBad cfg1 pickFirstMax_ok sentOK_bad (by decide) headUniform rfl
    (by decide +kernel) (by decide +kernel)

end Demo

end Depccg.SearchProps
