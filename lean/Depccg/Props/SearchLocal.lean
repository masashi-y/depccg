/-
  Locality of the search (statements in `SearchLocalDefs.lean`): the run consults the grammar only
  where it expands an item, so grammars agreeing there - in particular grammars differing only at
  categories that are never popped - give the same run, for every agenda discipline.
-/
import Depccg.Props.SearchLocalDefs
import Depccg.Proofs.SearchLocalLemmas

namespace Depccg.SearchProps
open Depccg Search

theorem run_local : RunLocalStatement := by
  intro pick g g' s cfg h
  have e : finalSt pick g' s cfg = finalSt pick g s cfg := loc_loop_congr fun j hj it rest hcl =>
    h j hj (Nat.not_le.2 hcl.room) it rest hcl.pop hcl.nonfin hcl.fresh
  simp only [runWith, e, and_self]

theorem run_ignores_unseen : RunIgnoresUnseenStatement := by
  intro pick g g' s cfg hun hbin
  have h := run_local pick g g' s cfg (loc_agree_of_unseen hun hbin)
  exact ⟨h.1, h.2.1⟩

namespace LocalDemo

/-- categories: 0 = NP, 1 = S\NP, 2 = S, 3 = N, 4 = a rare tag;
    `N ⇒ NP` (unary), `NP S\NP ⇒ S` (head right) -/
def g : Grammar where
  bin := fun x y => if x = 0 ∧ y = 1 then [⟨2, false⟩] else []
  un := fun x => if x = 3 then [0] else []

/-- as `g`, plus rules for the rare tag: `4 ⇒ NP`, `4 S\NP ⇒ S` (head left), `NP 4 ⇒ S`.
    They would fire if a leaf tagged 4 were ever popped. -/
def g' : Grammar where
  bin := fun x y => if x = 0 ∧ y = 1 then [⟨2, false⟩]
    else if x = 4 ∧ y = 1 then [⟨2, true⟩] else if x = 0 ∧ y = 4 then [⟨2, false⟩, ⟨0, true⟩] else []
  un := fun x => if x = 3 then [0] else if x = 4 then [0, 3] else []

/-- two tokens, five tags each, no pruning: the leaves tagged 4 enter the agenda with a low score -/
def s : Sent where
  n := 2
  tags := [[1, -3, -5, 4, -9], [-2, 6, -1, -4, -8]]
  deps := [[-1, 0, 3], [5, 2, 0]]
  roots := [2]
  passes := [[], []]

def cfg : Cfg := { penalty := 1, pruning := 5, nbest := 2, maxStep := 100 }

/-- The grammars differ (`g'.un 4 ≠ g.un 4`, `g'.bin 4 1 ≠ g.bin 4 1`), both leaves tagged 4 are in
    the agenda from the start, but the real (heap) run over `g` returns its two parses after popping
    only items of categories 0-3, where the grammars agree: the run over `g'` is the same. -/
example : g'.un 4 ≠ g.un 4 ∧ g'.bin 4 1 ≠ g.bin 4 1 ∧
    ((init pickHeap s cfg).agenda.filter (·.cat == 4)).length = 2 ∧
    (run g s cfg).results.length = 2 ∧
    (run g' s cfg).results = (run g s cfg).results ∧
    (run g' s cfg).popped = (run g s cfg).popped := by
  have hcat : ∀ it ∈ (runWith pickHeap g s cfg).popped, it.cat < 4 := by decide +kernel
  have hun : ∀ x, x < 4 → g'.un x = g.un x := by decide
  have hbin : ∀ x, x < 4 → ∀ y, y < 4 → g'.bin x y = g.bin x y := by decide
  refine ⟨by decide, by decide, by decide +kernel, by decide +kernel, ?_⟩
  refine run_ignores_unseen pickHeap g g' s cfg ?_ ?_
  · rintro x ⟨it, hit, rfl⟩
    exact hun _ (hcat it hit)
  · rintro x y ⟨it, hit, rfl⟩ ⟨it2, hit2, rfl⟩
    exact hbin _ (hcat it hit) _ (hcat it2 hit2)

end LocalDemo

end Depccg.SearchProps
