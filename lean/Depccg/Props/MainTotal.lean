/-
  C19 at the level of the program.

  Why both statements of `MainTotalDefs.lean` are false as written and what the corrected ones add
  is told in the header of `MainTotalDefs2.lean`: an *atom* named `NP\NP` under a `conj` node, which
  the English Prolog printer cannot print. The two counterexamples
  (`results_render_original_false`, `main_total_original_false`):

  * `ResultsRenderStatement`: categories `[conj, «NP\NP»]`, root `«NP\NP»`, two words: the only
    parse is `conj «NP\NP» ⇒ «NP\NP»` by `conjunction2`.
  * `MainTotalStatement`: tagger categories `, conj NP` (parsed from text), root `NP`, the line
    `, and Mary`, unary table `NP ⇒ «NP\NP»`, `«NP\NP» ⇒ NP`: the only parses go through
    `conj «NP\NP» ⇒ «NP\NP»`; `mainText … = AttributeError` under `--format prolog`.

  With well-formed categories and unary-table targets (`C05.WF`, as in `OutputWF`) for the English
  Prolog format — nothing more for the six record formats and the Japanese Prolog format — both
  hold: `results_render_partial`, `main_total_partial`.
-/
import Depccg.Props.MainTotalDefs
import Depccg.Props.MainTotalDefs2
import Depccg.Proofs.MainTotalLemmas
import Depccg.Props.Cli

namespace Depccg.CliProps
open Depccg Str Search GlueRun Lazy Print Cli LazyProps

/-- every result of the lazy run over a shipped grammar renders: words everywhere, Japanese
    symbols known to the Japanese Prolog printer, and — over well-formed categories and table —
    English labels acceptable to the English Prolog printer -/
theorem results_render_partial : ResultsRenderStatement' := by
  intro en seen table categories roots calls cfg maxLength x r hnd hlex hword h ts hts
  obtain ⟨h1, h2, h3⟩ := results_render_noBS (mt_result_trees hnd hlex h hword ts hts)
  exact ⟨h1, fun hen htab hcats => h2 hen (fun p hp c hc => wf_noBS (htab p hp c hc))
    fun c hc => wf_noBS (hcats c hc), h3⟩

/-- the program prints a text, whatever the input lines and the scores; for `--format prolog`
    under the English program the tagger's categories and the unary table are well-formed -/
theorem main_total_partial : MainTotalStatement' :=
  fun en seen table o _ _ _ _ _ _ hr hd hc hnd hlex hfit hwf =>
    main_total_noBS en seen table o hr hd hc hnd hlex hfit
      fun hf => ⟨fun p hp c hc' => wf_noBS ((hwf hf).1 p hp c hc'), fun c hc' => wf_noBS ((hwf hf).2 c hc')⟩

namespace MtCounter

def cConj : Cat := .atom (lit "conj") (.un none)
/-- the atom whose name is the five characters `NP\NP` -/
def cZ : Cat := .atom (lit "NP\\NP") (.un none)
def cNP : Cat := .atom (lit "NP") (.un none)
def cComma : Cat := .atom (lit ",") (.un none)
def cfg : Cfg := { penalty := 6, pruning := 50, nbest := 1, maxStep := 10000 }

/-- it prints like the functor, so `conjunction2` takes it -/
example : cZ.str = (Cat.fn cNP cBSlash cNP).str := by decide
example : En.applyBinary none cConj cZ =
    .ok [⟨.fn cZ cBSlash cZ, lit "conj", lit "<Φ>", true⟩, ⟨cZ, lit "conj", lit "<Φ>", true⟩] := by decide +kernel

def x2 : SentIn :=
  { tokens := [Token.ofWord (lit "and"), Token.ofWord (lit "x")], tags := [[0, -64], [-64, 0]],
    deps := [[0, 0, 0], [0, 0, 0]], passes := [[true, false], [true, false]] }

def tree2 : Tree :=
  .bin cZ (lit "conj") (lit "<Φ>") true
    (.leaf cConj (Token.ofWord (lit "and")) (lit "lex") (lit "<lex>"))
    (.leaf cZ (Token.ofWord (lit "x")) (lit "lex") (lit "<lex>"))

theorem run2 : (sentenceL pickHeap (OutputWF.shipped true none []) (addRoots [cConj, cZ] [cZ]).2 cfg none
    (GlueRun.init [cConj, cZ] [cZ]) x2).1 = .ok (.parsed [(tree2, 0)]) := by decide +kernel

example : prologEn [[tree2]] = .error .attributeError := by decide +kernel

end MtCounter

open MtCounter in
theorem results_render_original_false : ¬ ResultsRenderStatement := by
  intro h
  have h1 := h true none [] [cConj, cZ] [cZ] [] cfg none x2 (.parsed [(tree2, 0)]) (by decide)
    (by unfold LexOK; decide)
    (by
      intro tok ht
      simp only [x2, List.mem_cons, List.not_mem_nil, or_false] at ht
      rcases ht with rfl | rfl <;> exact ⟨_, rfl⟩)
    run2 (tree2, scoreText (some 0)) (by simp [scored])
  have h2 : cZ.isFunctor = true := (h1.2.1 rfl).2.1 rfl
  exact absurd h2 (by decide)

namespace MtCounter

def table3 : List (Cat × List Cat) := [(cNP, [cZ]), (cZ, [cNP])]

def o3 : Opts where
  cfg := cfg
  maxLength := 250
  procs := 1
  rootCats := lit "NP"
  piped := false
  format := .prologEn

def scores3 : List Scores :=
  [{ tags := [[0, -64, -64], [-64, 0, -64], [-64, -64, 0]], deps := [[0, 0, 0, 0], [0, 0, 0, 0], [0, 0, 0, 0]],
     passes := [[true, false], [true, false], [true, false]] }]

def doc3 : List (List Token) := [[Token.ofWord (lit ","), Token.ofWord (lit "and"), Token.ofWord (lit "Mary")]]

/-- the one parse of `, and Mary`: the node `NP\NP` over `conj` and the atom `NP\NP` -/
def tree3 : Tree :=
  .bin cNP (lit "lp") (lit "<lp>") true
    (.leaf cComma (Token.ofWord (lit ",")) (lit "lex") (lit "<lex>"))
    (.un cNP (lit "lex") (lit "<un>")
      (.bin cZ (lit "conj") (lit "<Φ>") true
        (.leaf cConj (Token.ofWord (lit "and")) (lit "lex") (lit "<lex>"))
        (.un cZ (lit "lex") (lit "<un>") (.leaf cNP (Token.ofWord (lit "Mary")) (lit "lex") (lit "<lex>")))))

theorem roots3 : rootsOf o3.rootCats = .ok [cNP] := by decide +kernel
theorem lines3 : Cli.mapExcept (tokensOfLine o3.piped) [lit ", and Mary"] = .ok doc3 := by decide +kernel
theorem cats3 : Cli.mapExcept Cat.parse [lit ",", lit "conj", lit "NP"] = .ok [cComma, cConj, cNP] := by
  decide +kernel

theorem lex3 : ∀ x ∈ zipSents doc3 scores3, LexOK [cComma, cConj, cNP] x := by
  intro x hx
  simp only [zipSents, doc3, scores3, List.mem_cons, List.not_mem_nil, or_false] at hx
  subst hx
  unfold LexOK
  decide

theorem run3 : Cli.mapExcept (fun x => (sentenceL pickHeap (OutputWF.shipped true none table3)
      (addRoots [cComma, cConj, cNP] [cNP]).2 o3.cfg (some o3.maxLength) (GlueRun.init [cComma, cConj, cNP] [cNP]) x).1)
    (zipSents doc3 scores3) = .ok [.parsed [(tree3, -12)]] := by decide +kernel

theorem main3_eq (f : Fmt) : mainText (OutputWF.shipped true none table3) { o3 with format := f }
    [lit ", and Mary"] [lit ",", lit "conj", lit "NP"] scores3 = printText f [.parsed [(tree3, -12)]] :=
  main_eq_map_solo _ { o3 with format := f } _ _ _ _ _ _ roots3 lines3 cats3 (by decide) lex3 _ run3

theorem main3 : mainText (OutputWF.shipped true none table3) o3 [lit ", and Mary"] [lit ",", lit "conj", lit "NP"]
    scores3 = .error .attributeError := by
  rw [show o3 = { o3 with format := .prologEn } from rfl, main3_eq]
  decide +kernel

/-- the same run printed in the AUTO format: the node `NP\NP` over `conj` and `NP\NP` is there -/
example : mainText (OutputWF.shipped true none table3) { o3 with format := .auto } [lit ", and Mary"]
    [lit ",", lit "conj", lit "NP"] scores3 =
    .ok (lit ("ID=1, log probability=-0.18750000\n(<T NP 0 2> (<L , XX XX , ,>) (<T NP 0 1> (<T NP\\NP 0 2> " ++
      "(<L conj XX XX and conj>) (<T NP\\NP 0 1> (<L NP XX XX Mary NP>) ) ) ) )\n\n")) := by
  rw [main3_eq]
  decide_lit

end MtCounter

open MtCounter in
theorem main_total_original_false : ¬ MainTotalStatement := by
  intro h
  obtain ⟨text, ht⟩ := h true none table3 o3 [lit ", and Mary"] [lit ",", lit "conj", lit "NP"] scores3
    [cNP] [cComma, cConj, cNP] doc3 roots3 lines3 cats3 (by decide) lex3 rfl
  rw [main3] at ht
  cases ht

end Depccg.CliProps
