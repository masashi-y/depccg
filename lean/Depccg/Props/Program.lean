/-
  The program from its configuration on.

  `ParseWFStatement` is false as written: a token `[` or `]` outside a group `name [ feature ]` is
  read as an atom name, and any token between `[` and `]` is taken as the feature text:

    * `"["`    reads to the atom named `[`              — the name is not a plain token;
    * `"S[/]"` reads to the atom `S` with the feature `/` — the feature is not a plain token.

  What the reader guarantees is `ReadWF` (`C05.WF` plus exactly these two things), which is exactly
  the range of the reader, and on which printing and reading is the identity
  (`parse_wf_partial`); `C05.WF` is `ReadWF` without such brackets. `ParseIdemStatement` and
  `ProgramTotalStatement` hold as written: the English Prolog printer only needs that no atom
  name holds a backslash (`CliProps.NoBS`), which holds of every `ReadWF` value.
-/
import Depccg.Props.ProgramDefs
import Depccg.Proofs.MainTotalLemmas
import Depccg.Proofs.ConfigLemmas
import Depccg.Proofs.ProgramParseLemmas
import Depccg.Props.Config

namespace Depccg.ProgramProps
open Depccg Str Search GlueRun Lazy Print Cli LazyProps Config

/-- `"["` reads to the atom named `[`, which is not a well-formed value -/
theorem parse_wf_original_false : ¬ ParseWFStatement := by
  intro h
  have hwf : C05.WF (.atom (lit "[") (.un none)) := h (lit "[") _ (by decide)
  have := hwf.1.2 cLBr (by decide)
  revert this
  decide

/-- the reader returns exactly the `ReadWF` values; `C05.WF` is `ReadWF` without stray brackets -/
theorem parse_wf_partial : ParseWFPartialStatement :=
  ⟨fun _ _ h => pp_parse_readWF h, fun _ h => C05.parse_print_readWF h, pp_wf_iff⟩

/-- reading, printing and reading again gives the same value -/
theorem parse_idem : ParseIdemStatement :=
  fun _ _ h => C05.parse_print_readWF (pp_parse_readWF h)

/-- the program prints a text whenever every string it reads as a category is one -/
theorem program_total : ProgramTotalStatement := by
  intro en p o lines tagCats scores categories doc hu hseen htg hroots hd hc hnd hlex hfit
  obtain ⟨L, hL⟩ := ConfigProps.read_params_total p true false hu (fun h => by cases h)
    (fun _ => hseen) htg
  obtain ⟨roots, hr⟩ := hroots
  -- whatever `Category.parse` returns has no backslash in an atom name: all the English Prolog
  -- printer needs (`main_total_noBS`), where `C05.WF` would be too much to ask (`parse_wf_original_false`)
  have hparse : ∀ s c, Cat.parse s = .ok c → CliProps.NoBS c := fun _ _ h =>
    CliProps.readWF_noBS (pp_parse_readWF h)
  simp only [programText, hL]
  refine CliProps.main_total_noBS en L.seen L.table o hr hd hc hnd hlex hfit fun _ => ⟨?_, fun c hc' => ?_⟩
  · obtain ⟨ht, -, -, -⟩ := ConfigProps.readParams_ok_iff.1 hL
    exact ConfigProps.unaryTable_targets hparse ht nofun
  · obtain ⟨s, -, hs⟩ := Cli.mapExcept_mem hc c hc'
    exact hparse s c hs

/-- the result is the one of `mainText` over the configured grammar -/
theorem program_eq : ProgramEqStatement := by
  intro en p o lines tagCats scores L h
  simp only [programText, h]

end Depccg.ProgramProps
