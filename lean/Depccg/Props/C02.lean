/-
  C02  Every returned parse is licensed by grammar and input.  For the search with any admissible
  agenda: `returned_valid`, `leaf_tags_admitted`, `no_unary_at_root` (SearchBasics.lean); for the
  agenda of the real code SearchHeap.lean, for the trees and the whole call EndToEnd.lean,
  GlueRun.lean, LazySearch.lean (`lean/obligations.json` lists them all).
-/
import Depccg.Props.SearchBasics
