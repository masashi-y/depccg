/-
  File-level round trips: text written by `to_string` (AUTO, PTB) or one `ja_of` line per tree
  (Japanese bank) read back by `read_auto` / `read_ptb` / `read_ccgbank`
  (models: Depccg/Read/File.lean).
-/
import Depccg.Props.FileDefs
import Depccg.Proofs.FileLemmas
import Depccg.Proofs.ScoreLemmas
import Depccg.Proofs.Lit

namespace Depccg.FileProps
open Depccg Str Print Read TextProps C20

theorem strip_noop : StripNoopStatement := fl_strip_noop

/-- white space only strips to the empty string -/
theorem strip_blank : StripBlankStatement := fl_strip_blank

/-- the stripped string neither starts nor ends with white space; `strip` is idempotent -/
theorem strip_ends : StripEndsStatement :=
  fun s => ⟨fl_strip_head s, fl_strip_last s, fl_strip_idem s⟩

theorem auto_file_roundtrip : AutoFileRoundtripStatement := fun lang batch text hok h => by
  simpa using fl_auto_records lang batch text hok h [] (by decide)

theorem ptb_file_roundtrip : PtbFileRoundtripStatement := fun lang batch text hok h => by
  simpa using fl_ptb_records lang batch text hok h [] (by decide)

/-- Japanese lines are read back in order, the `i`-th named `i` -/
theorem ja_file_roundtrip : JaFileRoundtripStatement := fl_ja_file

/-- `mapExcept f xs = .ok ys` : `ys` is `xs` through `f`, position by position -/
theorem mapexcept_spec : MapExceptSpecStatement := fun _ _ _ => mapExcept_spec

/-- the expected results, position by position -/
theorem file_image_pointwise : FileImagePointwiseStatement := fl_fileImage_pointwise

/-- sufficient conditions for `ScoreOK` -/
theorem score_ok : ScoreOKStatement := ⟨fl_scoreOK_of_plain, fl_scoreOK_of_all⟩

/-- `read_auto` raises (unbound `name`) on a text whose first non-empty line is a tree line -/
theorem auto_file_needs_id : AutoFileNeedsIdStatement := fl_auto_needs_id

/-- `read_ptb` names such a tree `ID=<index of its line>` -/
theorem ptb_file_default_name : PtbFileDefaultNameStatement := fl_ptb_default_name

section examples

def exA : Tree := exEn
def exB : Tree :=
  .un exS (lit "lex") (lit "<un>") (.leaf exNP [(lit "word", lit "("), (lit "pos", lit "NN")] [] [])
def exC : Tree := .leaf exNP (Token.ofWord (lit "Mary")) [] []

def exBatch : List (List (Tree × Str)) :=
  [[(exA, lit "-0.5"), (exB, lit "-1.25")], [(exC, lit "-0.125")]]

def exAutoText : Str := lit
  ("ID=1, log probability=-0.5\n" ++
   "(<T S[dcl] 1 2> (<L NP XX XX John NP>) (<L S[dcl]\\NP XX XX sleeps S[dcl]\\NP>) )\n" ++
   "ID=1, log probability=-1.25\n" ++
   "(<T S[dcl] 0 1> (<L NP NN NN -LRB- NP>) )\n" ++
   "ID=2, log probability=-0.125\n" ++
   "(<L NP XX XX Mary NP>)\n")

def exPtbText : Str := lit
  ("ID=1, log probability=-0.5\n" ++
   "(ROOT (S[dcl] (NP John) (S[dcl]\\NP sleeps)))\n" ++
   "ID=1, log probability=-1.25\n" ++
   "(ROOT (S[dcl] (NP -LRB-)))\n" ++
   "ID=2, log probability=-0.125\n" ++
   "(ROOT (NP Mary))\n")

theorem exS_ok : CatOK exS := ⟨exS_wf, C08.fixcat_id exS exS_wf, by decide +kernel⟩
theorem exNP_ok : CatOK exNP := ⟨exNP_wf, C08.fixcat_id exNP exNP_wf, by decide +kernel⟩

theorem exA_auto : AutoTreeOK .en exA := by
  refine ⟨exEn_cats, exEn_sys, ⟨⟨_, rfl⟩, ?_⟩, ⟨⟨_, rfl⟩, ?_⟩⟩ <;> (simp only [PlainWord]; decide)
theorem exB_auto : AutoTreeOK .en exB := by
  refine ⟨⟨exS_ok, exNP_ok⟩, ⟨trivial, trivial⟩, ⟨_, rfl⟩, ?_⟩
  simp only [PlainWord]; decide
theorem exC_auto : AutoTreeOK .en exC := by
  refine ⟨exNP_ok, trivial, ⟨_, rfl⟩, ?_⟩
  simp only [PlainWord]; decide

theorem exA_ptb : PtbTreeOK .en exA := ⟨exEn_cats, exEn_sys, exEn_toks⟩
theorem exB_ptb : PtbTreeOK .en exB :=
  ⟨⟨exS_ok, exNP_ok⟩, ⟨trivial, trivial⟩, lit "(", by decide, ⟨by decide, by decide⟩, by decide, by decide⟩
theorem exC_ptb : PtbTreeOK .en exC :=
  ⟨exNP_ok, trivial, lit "Mary", by decide, ⟨by decide, by decide⟩, by decide, by decide⟩

theorem exBatch_ok {p : Tree → Prop} (hA : p exA) (hB : p exB) (hC : p exC) : BatchOK p exBatch := by
  intro trees htr ts hts
  simp only [exBatch, List.mem_cons, List.not_mem_nil, or_false] at htr
  rcases htr with rfl | rfl
  · simp only [List.mem_cons, List.not_mem_nil, or_false] at hts
    rcases hts with rfl | rfl
    · exact ⟨hA, score_ok.2 _ (by decide)⟩
    · exact ⟨hB, score_ok.2 _ (by decide)⟩
  · simp only [List.mem_cons, List.not_mem_nil, or_false] at hts
    subst hts
    exact ⟨hC, score_ok.2 _ (by decide)⟩

theorem exAuto_printed : toStringLines autoOf false exBatch = .ok exAutoText := by
  unfold exAutoText; decide_lit
theorem exPtb_printed : toStringLines ptbOf false exBatch = .ok exPtbText := by
  unfold exPtbText; decide_lit

example : ∃ rs, fileImage (autoImage .en) exBatch = .ok rs ∧ readAutoFile .en exAutoText = .ok rs :=
  auto_file_roundtrip .en exBatch exAutoText (exBatch_ok exA_auto exB_auto exC_auto) exAuto_printed

example : ∃ rs, fileImage (ptbImage .en) exBatch = .ok rs ∧ readPtbFile .en exPtbText = .ok rs :=
  ptb_file_roundtrip .en exBatch exPtbText (exBatch_ok exA_ptb exB_ptb exC_ptb) exPtb_printed

theorem exAuto_read : readAutoFile .en exAutoText = fileImage (autoImage .en) exBatch := by
  unfold exAutoText; decide_lit
theorem exPtb_read : readPtbFile .en exPtbText = fileImage (ptbImage .en) exBatch := by
  unfold exPtbText; decide_lit

example : readAutoFile .en exAutoText = fileImage (autoImage .en) exBatch := exAuto_read
example : readPtbFile .en exPtbText = fileImage (ptbImage .en) exBatch := exPtb_read

example : (readAutoFile .en exAutoText).map (fun rs => rs.map (·.1)) =
    .ok [lit "ID=1, log probability=-0.5", lit "ID=1, log probability=-1.25",
         lit "ID=2, log probability=-0.125"] := by rw [exAuto_read]; decide_lit
example : (readPtbFile .en exPtbText).map (fun rs => rs.map (·.1)) =
    .ok [lit "ID=1, log probability=-0.5", lit "ID=1, log probability=-1.25",
         lit "ID=2, log probability=-0.125"] := by rw [exPtb_read]; decide_lit

example : (readAutoFile .en exAutoText).map (fun rs => rs.map (·.2.2)) =
    .ok [.bin exS (lit "ba") (lit "<") false
           (Tree.mkTerminal (autoToken (lit "John") (lit "XX") (lit "XX")) exNP)
           (Tree.mkTerminal (autoToken (lit "sleeps") (lit "XX") (lit "XX")) exVP),
         Tree.mkUnary exS (Tree.mkTerminal (autoToken (lit "-LRB-") (lit "NN") (lit "NN")) exNP),
         Tree.mkTerminal (autoToken (lit "Mary") (lit "XX") (lit "XX")) exNP] := by
  rw [exAuto_read]; decide_lit

/-! #### `ScoreOK` is needed: a score text that is a `PlainWord` but ends in a no-break space -/

def exBadScore : Str := lit "-0.5" ++ [160]

theorem exBadScore_plain : PlainWord exBadScore := by simp only [PlainWord]; decide

/-- the name read back is not the header written: `strip` removed the last character -/
theorem score_trailing_space_changes_name :
    toStringLines autoOf false [[(exC, exBadScore)]] =
      .ok (header false 1 exBadScore ++ [10] ++ lit "(<L NP XX XX Mary NP>)" ++ [10]) ∧
    (readAutoFile .en (header false 1 exBadScore ++ [10] ++ lit "(<L NP XX XX Mary NP>)" ++ [10])).map
        (fun rs => rs.map (·.1)) = .ok [lit "ID=1, log probability=-0.5"] ∧
    header false 1 exBadScore ≠ lit "ID=1, log probability=-0.5" := by decide_lit

example : readAutoFile .en (lit "\n \t\n(<L NP XX XX Mary NP>)\nID=7\n") = .error .runtime := by
  rw [show lit "\n \t\n(<L NP XX XX Mary NP>)\nID=7\n" =
    blankFront [[], [32, 9]] ++ lit "(<L NP XX XX Mary NP>)" ++ lit "\nID=7\n" by decide_lit]
  exact auto_file_needs_id .en [[], [32, 9]] exC (lit "(<L NP XX XX Mary NP>)") (lit "\nID=7\n")
    (by decide) exC_auto (by decide +kernel) (Or.inr (by decide))

example : readAutoFile .en (lit "\n \t\n(<L NP XX XX Mary NP>)\nID=7\n") = .error .runtime := by
  decide_lit

example : ∃ t', ptbImage .en exC = .ok t' ∧
    readPtbFile .en (lit "\n \t\n(ROOT (NP Mary))\n") = .ok [(lit "ID=2", t'.tokens, t')] := by
  rw [show lit "\n \t\n(ROOT (NP Mary))\n" =
    blankFront [[], [32, 9]] ++ lit "(ROOT (NP Mary))" ++ [10] by decide_lit]
  exact ptb_file_default_name .en [[], [32, 9]] exC (lit "(ROOT (NP Mary))") [10]
    (by decide) exC_ptb (by decide +kernel) (Or.inr rfl)

example : (readPtbFile .en (lit "\n \t\n(ROOT (NP Mary))\n")).map (fun rs => rs.map (·.1)) =
    .ok [lit "ID=2"] := by decide_lit

/-- with an `ID` line in front the tree is named by that line, not by its index -/
example : (readPtbFile .en (lit "ID=7\n\n(ROOT (NP Mary))\n(ROOT (NP Mary))")).map
    (fun rs => rs.map (·.1)) = .ok [lit "ID=7", lit "ID=7"] := by decide_lit

def exJaLeaf : Tree := .leaf exJaNP exJaTok1 [] []

def exJaText : Str := lit
  ("{< S[mod=nm,form=base,fin=t] {NP[case=ga,mod=nm,fin=f] 猫/猫/名詞-一般/_} " ++
   "{S[mod=nm,form=base,fin=t]\\NP[case=ga,mod=nm,fin=f] 寝る/寝る/動詞/基本形-一段}}\n" ++
   "{NP[case=ga,mod=nm,fin=f] 猫/猫/名詞-一般/_}")

theorem exJa_ok : JaTreeOK exJa ∧ JaNoNL exJa :=
  ⟨⟨exJa_cats, exJa_toks, exJa_infl, exJa_sym⟩,
   ⟨(by decide +kernel : 10 ∉ exJaS.str), (by decide +kernel : 10 ∉ exJaNP.str),
    (by decide +kernel : 10 ∉ exJaVP.str)⟩,
   ⟨by decide +kernel, by decide +kernel⟩, ⟨by decide +kernel, by decide +kernel⟩⟩

theorem exJaLeaf_ok : JaTreeOK exJaLeaf ∧ JaNoNL exJaLeaf :=
  ⟨⟨exJaNP_ok, exJa_toks.1, exJa_infl.1, trivial⟩,
   (by decide +kernel : 10 ∉ exJaNP.str), ⟨by decide +kernel, by decide +kernel⟩⟩

theorem exJaTrees_ok : ∀ t ∈ [exJa, exJaLeaf], JaTreeOK t ∧ JaNoNL t := by
  intro t ht
  simp only [List.mem_cons, List.not_mem_nil, or_false] at ht
  rcases ht with rfl | rfl
  · exact exJa_ok
  · exact exJaLeaf_ok

example : ∃ rs, readJaFile exJaText = .ok rs ∧ Forall2 JaResultOK [(exJa, 0), (exJaLeaf, 1)] rs :=
  ja_file_roundtrip [exJa, exJaLeaf] exJaText exJaTrees_ok
    (Or.inr (by unfold exJaText; decide_lit))

example : ∃ rs, readJaFile (exJaText ++ [10]) = .ok rs ∧
    Forall2 JaResultOK [(exJa, 0), (exJaLeaf, 1)] rs :=
  ja_file_roundtrip [exJa, exJaLeaf] (exJaText ++ [10]) exJaTrees_ok
    (Or.inl (by unfold exJaText; decide_lit))

example : (readJaFile exJaText).map (fun rs => rs.map fun r => (r.1, r.2.2)) =
    .ok [(lit "0", exJaImage),
         (lit "1", .leaf exJaNP [(lit "word", lit "猫")] (lit "lex") (lit "<lex>"))] := by
  unfold exJaText; decide_lit

/-- an `ID` line is not understood by `read_ccgbank`: it is parsed as a tree line -/
example : readJaFile (lit "ID=1, log probability=-0.5\n" ++ exJaText) = .error .runtime := by
  unfold exJaText; decide_lit

/-! #### `JaNoNL` is needed: a part-of-speech value with a newline inside -/

def exNlTok : Token := [(lit "word", lit "a"), (lit "pos", [120, 10, 121])]
def exNlTree : Tree := .leaf exNP exNlTok [] []

/-- the line-level hypotheses hold … -/
theorem exNlTree_ok : JaTreeOK exNlTree :=
  ⟨⟨exNP_wf, by decide +kernel, by decide +kernel⟩,
   ⟨⟨lit "a", by decide +kernel, ⟨by decide +kernel, by decide +kernel⟩, by decide +kernel⟩,
    by decide +kernel, by decide +kernel⟩,
   (by decide +kernel : JaInflOK exNlTok), trivial⟩

/-- … the printed "line" reads back as a line, but as a file it is two lines and the reader
    raises -/
theorem ja_newline_breaks_file :
    jaOf exNlTree = .ok (lit "{NP a/a/x\ny/_}") ∧
    (readJaLine (lit "{NP a/a/x\ny/_}")).map (·.1) =
      .ok (.leaf exNP [(lit "word", lit "a")] (lit "lex") (lit "<lex>")) ∧
    readJaFile (lit "{NP a/a/x\ny/_}") = .error .valueError := by decide +kernel

end examples

end Depccg.FileProps
