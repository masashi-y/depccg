/-
  C07 for the html format (depccg/printer/html.py): the MathML text of a derivation, read by the
  independent reader `readMathml`, gives back the nesting, the words, the rule labels and the
  (part, feature) segments of every category.
-/
import Depccg.Props.C07HtmlDefs
import Depccg.Proofs.C07HtmlLemmas

namespace Depccg.C07
open Depccg Str Print

theorem html_escape_safe : HtmlEscapeSafeStatement := html_escape_safe_all

theorem html_escape_roundtrip : HtmlEscapeRoundtripStatement := html_unesc_escape

theorem html_decode : HtmlDecodeStatement := by
  intro t s h
  obtain ⟨sk, hsk, rfl⟩ := mathmlSubtree_ok h
  exact ⟨sk, hsk, html_readMathml_skel sk⟩

theorem html_same_text_same_skeleton : HtmlSameTextSameSkeletonStatement := by
  intro t₁ t₂ s h₁ h₂
  obtain ⟨sk₁, hs₁, hr₁⟩ := html_decode t₁ s h₁
  obtain ⟨sk₂, hs₂, hr₂⟩ := html_decode t₂ s h₂
  rw [hs₁, hs₂, Option.some.inj (hr₁.symm.trans hr₂)]

/-- rendering succeeds when every leaf token has a `word` -/
theorem html_total : HtmlTotalStatement :=
  fun t h => mathmlSubtree_total t (TextProps.allToks_iff.2 h)

section examples

private def cNP : Cat := .atom (lit "NP") (.un none)
private def cN : Cat := .atom (lit "N") (.un none)
private def cS : Cat := .atom (lit "S") (.un (some (lit "dcl")))
private def cVP : Cat := .fn cS cBSlash cNP

/-- `A<&'b x` : (`N` ⇒ `NP`) + `S[dcl]\NP` ⇒ `S[dcl]`; a word with `<`, `&`, `'`, categories with a feature -/
private def exTree : Tree :=
  .bin cS (lit "ba") (lit "<") false
    (.un cNP (lit "lex") (lit "<un>") (.leaf cN (Token.ofWord (lit "A<&'b")) (lit "lex") (lit "<lex>")))
    (.leaf cVP (Token.ofWord (lit "x")) (lit "lex") (lit "<lex>"))

example : ∃ s sk, mathmlSubtree exTree = .ok s ∧ skelOf exTree = .ok sk ∧ readMathml s = some sk :=
  have ⟨s, hs⟩ := html_total exTree (by decide +kernel)
  have ⟨sk, h⟩ := html_decode exTree s hs
  ⟨s, sk, hs, h⟩

end examples

end Depccg.C07
