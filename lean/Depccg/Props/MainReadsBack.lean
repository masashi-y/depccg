/-
  What the program writes can be read back, for `--format json`, `--format xml`,
  `--format jigg_xml`: each is the decode lemma of the format with the suffix `[10]`, the newline
  `print` adds. An instance of `C07Json.BatchOK` is `exBatch` of `Props/C07Json.lean`.
-/
import Depccg.Proofs.C07JsonLemmas
import Depccg.Proofs.MainReadsBackLemmas
import Depccg.Proofs.C15TextLemmas
import Depccg.Proofs.ScoreLemmas
import Depccg.Proofs.PrintLemmas
import Depccg.Proofs.CliLemmas

namespace Depccg.CliProps
open Depccg Str Search GlueRun Lazy Print Cli LazyProps Xml

theorem main_json_reads_back : MainJsonReadsBackStatement := fun results text hb h => by
  simp only [printText] at h
  cases h
  exact C07Json.js_readJsonOutput _ hb [10] (by decide)

theorem main_xml_reads_back : MainXmlReadsBackStatement := fun results text hk h => by
  simp only [printText] at h
  obtain ⟨t, ht, rfl⟩ := addNewline_inv h
  exact C15Text.xt_xml_decode _ t
    (forall_treesOnly fun r hr => (forall_scoredK_iff r).1 (hk r hr)) ht [10] rfl

theorem main_jigg_reads_back : MainJiggReadsBackStatement := fun ja results text hk h => by
  have h : addNewline (jiggText ja (results.map scoredK)) = .ok text := by cases ja <;> exact h
  obtain ⟨t, ht, rfl⟩ := addNewline_inv h
  obtain ⟨ss, hj, -⟩ := jiggText_ok_iff.1 ht
  have := C15Text.xt_jigg_decode ja _ ss t (List.forall_mem_map.2 hk) hj ht [10] rfl
  rw [treesOnly_eq] at hj
  rw [List.map_map] at this
  exact ⟨ss, hj, this⟩

theorem program_tokens_keys_ok : ProgramTokensKeysOKStatement := fun _ _ _ h tok htok =>
  let ⟨_, _, _, _, _, e⟩ := (tokensOfLine_fields h tok htok).shape
  e ▸ mrb_tok5 _ _ _ _ _

theorem placeholder_keys_ok : PlaceholderKeysOKStatement := fun kv hkv => by
  rw [List.mem_singleton.1 hkv]
  exact mrb_keys5 _ List.mem_cons_self

end Depccg.CliProps
