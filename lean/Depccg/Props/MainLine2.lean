/-
  `--format auto_extended` and `--format ja` at the level of the whole output: the records of
  `main_line_reads_back` composed with the per-line theorems `C07.autoext_decode` and
  `C20.ja_roundtrip_partial`.
-/
import Depccg.Props.C07
import Depccg.Props.C20
import Depccg.Props.MainLine
import Depccg.Props.MainLine2Defs
import Depccg.Props.File

namespace Depccg.CliProps
open Depccg Str Search GlueRun Lazy Print Cli LazyProps Read TextProps

/-- every tree line of the `auto_extended` output decodes to the view of the returned tree -/
theorem main_autoext_reads_back : MainAutoExtReadsBackStatement := fun results text hok hp =>
  printText_records lineDoc_reads (f := .autoExt) (.inl rfl) results text
    (Q := fun t s => C07.decExt (C07.nodes t + 1) (splitOn cSpace s) = some (C07.viewExt t, []))
    (fun r hr ts hts s hs =>
      let ⟨hc, ht, hl⟩ := hok r hr ts hts
      ⟨C07.autoExtOf_no10 ts.1 s hc ht hl hs, C07.autoext_decode ts.1 s hc ht hl hs⟩) hp

/-- the counterexample for `ja`: a part-of-speech value with a newline inside -/
def m2NlResults : List SentResult := [.parsed [(FileProps.exNlTree, 0)]]

/-- the `ja` statement without `FileProps.JaNoNL` is false: the line-level hypotheses allow a
    newline inside a printed part-of-speech value (`FileProps.exNlTree`, the leaf `NP` with word `a`
    and `pos = "x\ny"`); its line `{NP a/a/x\ny/_}` is printed as two lines and the document reader
    rejects the text -/
theorem main_ja_reads_back_original_false : ¬ MainJaReadsBackStatement := by
  intro h
  have hok : ∀ r ∈ m2NlResults, ∀ ts ∈ scored r, AllCats C20.JaCatOK ts.1 ∧
      AllToks C20.JaTokOK ts.1 ∧ AllToks C20.JaInflOK ts.1 ∧ C20.SymOK ts.1 := by
    intro r hr ts hts
    simp only [m2NlResults, List.mem_singleton] at hr
    subst hr
    simp only [scored, List.map_cons, List.map_nil, List.mem_singleton] at hts
    subst hts
    exact FileProps.exNlTree_ok
  have hp : printText Fmt.ja m2NlResults =
      .ok (lit "ID=1, log probability=0.00000000\n{NP a/a/x\ny/_}\n\n") := by decide_lit
  obtain ⟨recs, hdec, _⟩ := h m2NlResults _ hok hp
  have hnone : decLineDoc (lit "ID=1, log probability=0.00000000\n{NP a/a/x\ny/_}\n\n") = none := by
    decide_lit
  rw [hnone] at hdec
  cases hdec

/-- with no newline inside a category text or a printed part-of-speech / inflection field
    (`FileProps.JaNoNL`), every tree line of the `ja` output is read by the model of the bank
    reader to the image of the returned tree -/
theorem main_ja_reads_back_partial : MainJaReadsBackPartialStatement := fun results text hok hp =>
  printText_records lineDoc_reads (f := .ja) (.inl rfl) results text
    (Q := fun t s => ∃ t' toks, C20.jaImage t = .ok t' ∧ readJaLine s = .ok (t', toks))
    (fun r hr ts hts s hs =>
      let ⟨hc, ht, hi, hy, hn⟩ := hok r hr ts hts
      let ⟨t', toks, him, hrd, _⟩ := C20.ja_roundtrip_partial ts.1 s hc ht hi hy hs
      ⟨FileProps.fl_jaOf_no10 ts.1 s ht hy hn hs, t', toks, him, hrd⟩) hp

end Depccg.CliProps
