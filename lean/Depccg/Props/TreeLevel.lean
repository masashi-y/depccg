/-
  C09, C16 and C10 (order / count) on the objects the caller receives: the `(Tree, score)` pairs
  of a sentence parsed after any history of the call.
-/
import Depccg.Props.TreeLevelDefs
import Depccg.Proofs.TreeLevelLemmas
import Depccg.Proofs.OutputWFLemmas

namespace Depccg.TreeLevel
open Depccg Search SearchProps GlueTree GlueRun Lazy LazyProps GlueRunProps OutputWF

/-- C09 on the returned objects: the attached score is the model score recomputed from the tree -/
theorem tree_score : TreeScoreStatement := by
  intro G categories roots calls cfg maxLength x trees hnd hlex h ts hts
  obtain ⟨gF, d, -, hpre, hroot, hm, hsc⟩ := sentence_pair hnd hlex h ts hts
  rw [hsc]
  -- `hlex` serves as the bound on the tag rows: `LexOK categories x` unfolds to it and `sentOf` keeps
  -- `x.tags`; `tablesOf gF` reads `gF.cats` by position, so the prefix `hpre` gives the columns
  exact tl_treeScore (s := sentOf (addRoots categories roots).2 x) hnd hlex
    (fun _ hi => gr_prefix_get_lt hpre hi) hm hroot.1 hroot.2.1

/-- C16 on the returned objects: every leaf carries a category the beam admitted for its word -/
theorem tree_beam : TreeBeamStatement := by
  intro G categories roots calls cfg maxLength x trees hnd hlex h ts hts
  obtain ⟨gF, d, -, hpre, hroot, hm, -⟩ := sentence_pair hnd hlex h ts hts
  obtain ⟨hlen, hbeam⟩ := tl_leaf_admitted hm hroot.1
  refine ⟨hlen.trans hroot.2.2.1, ?_⟩
  intro i c hc
  obtain ⟨sc, col, hadm, hcol⟩ := hbeam i c hc
  rw [hroot.2.1, Nat.zero_add] at hadm
  exact ⟨sc, col, hadm, (gr_prefix_get_lt hpre (admitted_col_lt (s := sentOf (addRoots categories roots).2 x) hadm hlex)).symm.trans hcol⟩

/-- C10 (order, count) on the returned objects -/
theorem trees_sorted : TreesSortedStatement := by
  intro G categories roots calls cfg maxLength x trees hnd hlex h
  obtain ⟨gF, -, -, hne, htr⟩ := sentence_run hnd hlex h
  have hmap := treesOf_scores htr
  refine ⟨hmap ▸ results_sorted pickHeap _ _ cfg, ?_, fun hnil => ?_⟩
  · rw [← List.length_map (f := (·.2)), hmap, List.length_map]
    exact results_count pickHeap _ _ cfg pickHeap_ok
  · rw [hnil] at hmap
    exact hne (List.map_eq_nil_iff.1 hmap.symm)

end Depccg.TreeLevel
