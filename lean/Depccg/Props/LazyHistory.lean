/-
  C11 at the level of trees, for the lazy model of `depccg._parsing.run` (`Depccg.Lazy`):
  what a sentence gets — the failure placeholder or the list of scored trees — and the number of
  search steps do not depend on what the call has parsed before.

  `lazy_history_general` is the statement for any state satisfying `Inv'` that extends the
  initial table (no reference to how it was reached).
-/
import Depccg.Props.LazyDefs
import Depccg.Proofs.LazyHistoryLemmas

namespace Depccg.LazyProps
open Depccg Search SearchProps GlueTree GlueRun Lazy GlueRunProps

theorem lazy_history_general (G : GlueRun.CatGrammar) (categories roots : List Cat) (cfg : Cfg)
    (maxLength : Option Nat) (x : SentIn) (gstH : GSt)
    (hnd : categories.Nodup) (hlex : LexOK categories x) (hinv : Inv' G gstH)
    (hpre : (GlueRun.init categories roots).cats <+: gstH.cats) :
    (sentenceL pickHeap G (addRoots categories roots).2 cfg maxLength gstH x).1
      = (sentenceL pickHeap G (addRoots categories roots).2 cfg maxLength
          (GlueRun.init categories roots) x).1 ∧
    (sentenceL pickHeap G (addRoots categories roots).2 cfg maxLength gstH x).2.1.steps
      = (sentenceL pickHeap G (addRoots categories roots).2 cfg maxLength
          (GlueRun.init categories roots) x).2.1.steps :=
  lh_sentence_sim pickHeap_ok pickHeap_nat G (GlueRun.init categories roots).cats _ gstH _ cfg maxLength x
    (init_inv' G categories roots hnd) hinv (List.prefix_refl _) hpre
    (lz_tags_mono hlex (gr_addRoots_prefix roots categories))
    (fun _ hr => gr_addRoots_lt roots categories hr)

theorem lazy_history_independent : LazyHistoryIndependentStatement := by
  intro G categories roots calls cfg maxLength x hnd hlex
  obtain ⟨hinv, hpre⟩ := gr_run_inv' G calls _ (init_inv' G categories roots hnd)
  exact lazy_history_general G categories roots cfg maxLength x _ hnd hlex hinv hpre

theorem batch_eq_map_solo : BatchEqMapSoloStatement := by
  intro G categories roots cfg maxLength doc hnd hlex
  refine ⟨(sentencesL pickHeap G (addRoots categories roots).2 cfg maxLength
      (GlueRun.init categories roots) doc).1,
    (sentencesL pickHeap G (addRoots categories roots).2 cfg maxLength
      (GlueRun.init categories roots) doc).2, ?_, ?_⟩
  · unfold Lazy.runBatch runBatchWith
    rw [if_pos hnd]
  -- glue invariant and initial table pass from sentence to sentence: each is parsed as if alone
  suffices ∀ (doc : List SentIn) (g : GSt), (∀ x ∈ doc, LexOK categories x) → Inv' G g →
      (GlueRun.init categories roots).cats <+: g.cats →
      (sentencesL pickHeap G (addRoots categories roots).2 cfg maxLength g doc).1.map (·.1)
        = doc.map fun x => (sentenceL pickHeap G (addRoots categories roots).2 cfg maxLength
            (GlueRun.init categories roots) x).1 from
    this doc _ hlex (init_inv' G categories roots hnd) (List.prefix_refl _)
  intro doc
  induction doc with
  | nil => intro g _ _ _; rfl
  | cons x xs ih =>
    intro g hlex ig pg
    rw [sentencesL_cons]
    have hr := sentenceL_reach pickHeap G (addRoots categories roots).2 cfg maxLength g x
    have h1 := (lazy_history_general G categories roots cfg maxLength x g hnd
      (hlex x List.mem_cons_self) ig pg).1
    have h2 := ih _ (fun y hy => hlex y (List.mem_cons_of_mem _ hy)) (lz_reach_inv hr ig)
      (pg.trans (lz_reach_grows hr).1)
    simp only [List.map_cons, h1, h2]

end Depccg.LazyProps
