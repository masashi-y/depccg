/-
  The one-line-per-tree formats (`auto`, `auto_extended`, `ptb`, `ja`) at the level of the whole
  output: the reader `Read.decLineDoc` (Depccg/Read/LineDoc.lean) splits the text that
  `to_string(…, format)` / `print_` emits into its records — sentence number, score text, tree line —
  one per returned tree, in order.
-/
import Depccg.Proofs.CliLemmas
import Depccg.Props.MainLineDefs
import Depccg.Proofs.RecordLines

namespace Depccg.CliProps
open Depccg Str Search GlueRun Lazy Print Cli LazyProps Read

/-- the text of `to_string(batch, format)` for a one-line format is read back record by record -/
theorem line_doc_decode : LineDocDecodeStatement := fun fmt batch text h hp =>
  let ⟨out, hf, hrun⟩ := records_doc lineDoc_reads fmt batch text h hp
  ⟨out, by simpa using hrun [] rfl, hf⟩

/-- what `main` prints under `--format auto | auto_extended | ptb | ja` (the text of `to_string` and
    the newline of `print`) is read back: one record per returned tree, named by sentence, with its
    score text and its line -/
theorem main_line_reads_back : MainLineReadsBackStatement := fun f results text hl hok hp =>
  printText_records lineDoc_reads (.inl hl) (Q := fun t s => f.fn t = .ok s) results text
    (fun r hr ts hts s hs => ⟨hok r hr ts hts s hs, hs⟩) hp

/-! Two sentences, the first with two trees, the second failed (the placeholder,
  score text `-inf`), printed in the AUTO format -/

section examples

private def lN : Cat := .atom (lit "N") (.un none)
private def lNP : Cat := .atom (lit "NP") (.un none)
private def lS : Cat := .atom (lit "S") (.un (some (lit "dcl")))
private def lVP : Cat := .fn lS cBSlash lNP

private def lSleeps : Tree :=
  .leaf lVP [(lit "word", lit "sleeps"), (lit "lemma", lit "sleep"), (lit "pos", lit "VBZ")]
    (lit "lex") (lit "<lex>")

private def lTree1 : Tree :=
  .bin lS (lit "ba") (lit "<") false (.leaf lNP [(lit "word", lit "Kim")] (lit "lex") (lit "<lex>")) lSleeps

private def lTree2 : Tree :=
  .bin lS (lit "ba") (lit "<") true
    (.un lNP (lit "lex") (lit "<un>") (.leaf lN [(lit "word", lit "Kim")] (lit "lex") (lit "<lex>"))) lSleeps

private def lResults : List SentResult := [.parsed [(lTree1, -32), (lTree2, -100)], .failed]

private def lLine1 : Str :=
  lit "(<T S[dcl] 1 2> (<L NP POS POS Kim NP>) (<L S[dcl]\\NP VBZ VBZ sleeps S[dcl]\\NP>) )"
private def lLine2 : Str :=
  lit "(<T S[dcl] 0 2> (<T NP 0 1> (<L N POS POS Kim N>) ) (<L S[dcl]\\NP VBZ VBZ sleeps S[dcl]\\NP>) )"
private def lLine3 : Str := lit "(<L NP POS POS FAILED NP>)"

private def lText : Str :=
  lit "ID=1, log probability=-0.50000000\n" ++ lLine1 ++ lit "\n" ++
  lit "ID=1, log probability=-1.56250000\n" ++ lLine2 ++ lit "\n" ++
  lit "ID=2, log probability=-inf\n" ++ lLine3 ++ lit "\n" ++
  lit "\n"

example : printText Fmt.auto lResults = .ok lText ∧
    decLineDoc lText =
      some [(1, lit "-0.50000000", lLine1), (1, lit "-1.56250000", lLine2), (2, lit "-inf", lLine3)] := by
  unfold lText lLine1 lLine2 lLine3; decide_lit

/-- the reader is strict: text before the first record, a sentence number with a leading zero, a
    header without `, log probability=`, a header without a tree line, an empty line between two
    records are rejected; a tree line that looks like a header is still a tree line; empty lines at
    the end are skipped -/
example : decLineDoc (lit "x\nID=1, log probability=0\nt\n") = none := by decide_lit
example : decLineDoc (lit "ID=01, log probability=0\nt\n") = none := by decide_lit
example : decLineDoc (lit "ID=1 log probability=0\nt\n") = none := by decide_lit
example : decLineDoc (lit "ID=1, log probability=0") = none := by decide_lit
example : decLineDoc (lit "ID=1, log probability=0\nt\n\nID=2, log probability=0\nu\n") = none := by
  decide_lit
example : decLineDoc (lit "ID=1, log probability=, log probability=0\nID=7, log probability=1\nID=2, log probability=\n\n\n\n") =
    some [(1, lit ", log probability=0", lit "ID=7, log probability=1"), (2, [], [])] := by
  decide_lit

end examples

end Depccg.CliProps
