/-
  The program from its configuration on. `main(args)` calls `read_params(config, args)` — `args` lands
  in the position of `disable_category_dictionary`, the seen rules stay enabled — and parses with the
  two rule functions it hands out. Everything the program computes categories from is text
  (`unary_rules`, `seen_rules` of the configuration, the tagger's category names, `--root-cats`), and
  what `Category.parse` accepts is a well-formed category (`parse_wf`), so the well-formedness
  hypotheses of `main_total_partial` are met by construction: the program fails only on a string that
  is not a category (or, for the XML formats, on text that is not XML text).
-/
import Depccg.Config
import Depccg.Props.MainTotalDefs2
import Depccg.Props.ConfigDefs
import Depccg.Props.ReadWFDefs

namespace Depccg.ProgramProps
open Depccg Str Search GlueRun Lazy Print Cli LazyProps Config

/-- whatever text the reader accepts denotes a well-formed category value -/
def ParseWFStatement : Prop := ∀ (s : Str) (c : Cat), Cat.parse s = .ok c → C05.WF c

/-! ### what the reader guarantees (`ParseWFStatement` is false: `parse_wf_original_false`)

  The reader treats a token `[` or `]` that is not part of a group `name [ feature ]` as an atom
  name (`"["` reads to the atom named `[`), and takes *any* token between `[` and `]` as the feature
  text, also one of the nine isolated characters (`"S[/]"` reads to `S` with the feature `/`).
  Neither is a plain token, so neither value is `C05.WF`. `ReadWF` allows exactly these two things
  more than `C05.WF`, and it is exactly the set of values the reader returns. -/

/-- whatever the reader accepts is `ReadWF`; every `ReadWF` value is read from its own printed text
    (so `ReadWF` is exactly the range of the reader, and printing and reading is the identity on
    it); and `C05.WF` is `ReadWF` without the stray brackets -/
def ParseWFPartialStatement : Prop :=
  (∀ (s : Str) (c : Cat), Cat.parse s = .ok c → ReadWF c) ∧
  (∀ c : Cat, ReadWF c → Cat.parse c.str = .ok c) ∧
  (∀ c : Cat, C05.WF c ↔ ReadWF c ∧ BracketFree c)

/-- hence reading, printing and reading again gives the same value: printing normalises the text -/
def ParseIdemStatement : Prop := ∀ (s : Str) (c : Cat), Cat.parse s = .ok c → Cat.parse c.str = .ok c

/-- `main(args)` from the configuration on -/
def programText (en : Bool) (p : Params) (o : Opts) (lines tagCats : List Str) (scores : List Scores) :
    Except Err Str :=
  match readParams p true false with
  | .error e => .error e
  | .ok L => mainText (OutputWF.shipped en L.seen L.table) o lines tagCats scores

def Parses (s : Str) : Prop := ∃ c, Cat.parse s = .ok c

/-- the program prints a text whenever every string it reads as a category is one, the input lines
    are tokens (`POSandNERtagged` input: three to five `|`-separated fields per word), the tagger's
    category names are distinct categories and its score matrices have one column per category -/
def ProgramTotalStatement : Prop :=
  ∀ (en : Bool) (p : Params) (o : Opts) (lines tagCats : List Str) (scores : List Scores)
    (categories : List Cat) (doc : List (List Token)),
    (∀ q ∈ p.unaryRules, Parses q.1 ∧ Parses q.2) → (∀ q ∈ p.seenRules, Parses q.1 ∧ Parses q.2) →
    (∀ s ∈ p.targets, Parses s) →
    (∃ roots, rootsOf o.rootCats = .ok roots) → Cli.mapExcept (tokensOfLine o.piped) lines = .ok doc →
    Cli.mapExcept Cat.parse tagCats = .ok categories → categories.Nodup →
    (∀ x ∈ zipSents doc scores, LexOK categories x) → CliProps.fmtFits en o.format = true →
    ∃ text, programText en p o lines tagCats scores = .ok text

/-- and the result is the one of parsing every sentence alone with the configured grammar -/
def ProgramEqStatement : Prop :=
  ∀ (en : Bool) (p : Params) (o : Opts) (lines tagCats : List Str) (scores : List Scores) (L : Loaded),
    readParams p true false = .ok L →
    programText en p o lines tagCats scores = mainText (OutputWF.shipped en L.seen L.table) o lines tagCats scores

end Depccg.ProgramProps
