/-
  C12 (a), C09 at the level of trees: what `retrieve_tree` builds from a licensed derivation
  carries, on every node, the label, symbol and head direction of the very cache entry (= grammar
  result) that created it, and its head flags are those the search used for scoring.
-/
import Depccg.Proofs.GlueTreeLemmas
import Depccg.Props.SearchBasics
import Depccg.Props.ClosureDefs

namespace Depccg.C12
open Depccg Search SearchProps GlueTree

/-- node by node: the tree built for `d` mirrors `d`; each unary / binary node carries the fields of
    the cache entry at its rule id in the row of its children's category ids -/
inductive Mirrors (T : Tables) (tokens : List Token) : Deriv → Tree → Prop
  | leaf (t c : Nat) (cat : Cat) (tok : Token) : T.cats c = some cat → tokens[t]? = some tok →
      Mirrors T tokens (.leaf t c) (Tree.mkTerminal tok cat)
  | un (c rid : Nat) (d : Deriv) (cat : Cat) (e : CacheEntry) (child : Tree) :
      Mirrors T tokens d child → T.cats c = some cat → (T.un (dcatId d))[rid]? = some e → e.catId = c →
      Mirrors T tokens (.un c rid d) (.un cat e.opString e.opSymbol child)
  | bin (c rid : Nat) (hl : Bool) (l r : Deriv) (cat : Cat) (e : CacheEntry) (tl tr : Tree) :
      Mirrors T tokens l tl → Mirrors T tokens r tr → T.cats c = some cat →
      (T.bin (dcatId l) (dcatId r))[rid]? = some e → e.catId = c → e.headLeft = hl →
      Mirrors T tokens (.bin c rid hl l r) (.bin cat e.opString e.opSymbol e.headLeft tl tr)

/-- every category id of `d` is in the table and every leaf position has a token: what `retrieve`
    needs in order not to fail -/
def Covered (T : Tables) (tokens : List Token) : Deriv → Prop
  | .leaf t c => (T.cats c).isSome ∧ t < tokens.length
  | .un c _ d => (T.cats c).isSome ∧ Covered T tokens d
  | .bin c _ _ l r => (T.cats c).isSome ∧ Covered T tokens l ∧ Covered T tokens r

/-- what `retrieve` builds from a licensed derivation mirrors it: the entry read at a node is the
    one whose image licenses the node -/
theorem mirrors_of_retrieve {T : Tables} {tokens : List Token} {s : Sent} {cfg : Cfg} {d : Deriv}
    (hl : Licensed (grammarOf T) s cfg d) :
    ∀ {t : Tree}, retrieve T tokens d = .ok t → Mirrors T tokens d t := by
  induction hl with
  | leaf t c sc _ _ =>
    intro tr hret
    obtain ⟨cat, tok, hcat, htok, rfl⟩ := retrieve_leaf_ok.1 hret
    exact Mirrors.leaf t c cat tok hcat htok
  | un c rid d _ hrule _ ih =>
    intro tr hret
    obtain ⟨ch, cat, e, hch, hcat, he, rfl⟩ := retrieve_un_ok.1 hret
    rw [grammarOf_un_getElem?, he] at hrule
    rw [← dcatId_eq] at he
    exact Mirrors.un c rid d cat e ch (ih hch) hcat he (Option.some.inj hrule)
  | bin c rid hl l r _ _ _ hrule ihl ihr =>
    intro tr hret
    obtain ⟨tl, tr', cat, e, htl, htr, hcat, he, rfl⟩ := retrieve_bin_ok.1 hret
    rw [grammarOf_bin_getElem?, he] at hrule
    rw [← dcatId_eq l, ← dcatId_eq r] at he
    injection Option.some.inj hrule with hec heh
    exact Mirrors.bin c rid hl l r cat e tl tr' (ihl htl) (ihr htr) hcat he hec heh

/-- under `Covered`, `retrieve` succeeds, and what it builds mirrors `d` (`mirrors_of_retrieve`):
    labels, symbols and head directions on the tree are those of the grammar result that created
    each node, even when several results exist for the same children -/
theorem labels_from_creator (T : Tables) (tokens : List Token) (s : Sent) (cfg : Cfg) (d : Deriv)
    (hl : Licensed (grammarOf T) s cfg d) (hc : Covered T tokens d) :
    ∃ t, retrieve T tokens d = .ok t ∧ Mirrors T tokens d t := by
  have hex : ∃ t, retrieve T tokens d = .ok t := by
    induction hl with
    | leaf t c sc _ _ =>
      obtain ⟨cat, hcat⟩ := Option.isSome_iff_exists.1 hc.1
      exact ⟨_, retrieve_leaf_ok.2 ⟨cat, _, hcat, List.getElem?_eq_getElem hc.2, rfl⟩⟩
    | un c rid d _ hrule _ ih =>
      obtain ⟨cat, hcat⟩ := Option.isSome_iff_exists.1 hc.1
      obtain ⟨ch, hch⟩ := ih hc.2
      rw [grammarOf_un_getElem?] at hrule
      obtain ⟨e, he, -⟩ := Option.map_eq_some_iff.1 hrule
      exact ⟨_, retrieve_un_ok.2 ⟨ch, cat, e, hch, hcat, he, rfl⟩⟩
    | bin c rid hl l r _ _ _ hrule ihl ihr =>
      obtain ⟨cat, hcat⟩ := Option.isSome_iff_exists.1 hc.1
      obtain ⟨tl, htl⟩ := ihl hc.2.1
      obtain ⟨tr, htr⟩ := ihr hc.2.2
      rw [grammarOf_bin_getElem?] at hrule
      obtain ⟨e, he, -⟩ := Option.map_eq_some_iff.1 hrule
      exact ⟨_, retrieve_bin_ok.2 ⟨tl, tr, cat, e, htl, htr, hcat, he, rfl⟩⟩
  obtain ⟨t, ht⟩ := hex
  exact ⟨t, ht, mirrors_of_retrieve hl ht⟩

theorem mirrors_flag (T : Tables) (tokens : List Token) (c rid : Nat) (hl : Bool) (l r : Deriv) (t : Tree)
    (h : Mirrors T tokens (.bin c rid hl l r) t) : t.headLeft = hl := by
  cases h with
  | bin _ _ _ _ _ cat e tl tr _ _ _ _ _ heh => exact heh

theorem mirrors_leafCats {T : Tables} {tokens : List Token} {d : Deriv} {t : Tree}
    (hm : Mirrors T tokens d t) :
    (SearchProps.leafCats d).map (fun p => T.cats p.2) = (Closure.leafCats t).map some := by
  induction hm with
  | leaf tk c cat tok hcat _ => simp only [SearchProps.leafCats, List.map_cons, hcat]; rfl
  | un _ _ _ _ _ _ _ _ _ _ ih => exact ih
  | bin _ _ _ _ _ _ _ _ _ _ _ _ _ _ _ ihl ihr =>
    simp only [SearchProps.leafCats, Closure.leafCats, List.map_append, ihl, ihr]

end Depccg.C12
