/-
  C14  Rule application is a pure, total, reproducible function; filters only remove.
-/
import Depccg.Props.C14Defs
import Depccg.Proofs.C14Lemmas

namespace Depccg.C14
open Depccg Cat Str Unify

/-- English: the seen set only gates; the key is the pair with `X` and `nb` erased. -/
theorem seen_gate_en : SeenGateEnStatement := by
  intro S x y sx sy hx hy
  rw [clear_nbX_eq] at hx hy
  cases hx; cases hy
  rw [en_applyBinary_eq, en_applyBinary_eq]
  rfl

/-- Japanese: the seen set only gates; the key is the raw pair. -/
theorem seen_gate_ja : SeenGateJaStatement := fun _ _ _ => rfl

/-- `clear_features("X","nb")` and `clear_features("nb")` never raise. -/
theorem clear_total : ClearTotalStatement := fun x =>
  ⟨⟨_, clear_nbX_eq x⟩, ⟨_, clear_nb_eq x⟩⟩

/-- English results do not depend on `nb` marks (clearing `nb` is idempotent and absorbed by clearing `X`,`nb`). -/
theorem nb_irrelevant : NbIrrelevantStatement := by
  intro seen x y x' y' hx hy
  rw [clear_nb_eq] at hx hy
  cases hx; cases hy
  rw [en_applyBinary_eq, en_applyBinary_eq]
  simp only [C13.erase_erase_of_imp fun _ => isNb_imp_isNbX,
    C13.erase_erase_of_imp (p := isNb) (q := isNb) fun _ h => h]

/-- English unary rules return exactly the configured targets, in order. -/
theorem unary_exact_en : UnaryExactEnStatement := by
  intro T x
  rw [en_applyUnary_eq, List.map_map]
  exact List.map_id _

/-- Japanese unary rules return exactly the configured targets, in order. -/
theorem unary_exact_ja : UnaryExactJaStatement := by
  intro T x rs h
  rcases ja_applyUnary_ok h with ⟨rfl, h0⟩ | ⟨sym, -, rfl⟩
  · exact h0.symm
  · rw [List.map_map]
    exact List.map_id _

/-- Japanese unary rules do not raise when the result atom carries a three-part feature. -/
theorem unary_total_ja : UnaryTotalJaStatement := by
  intro T x b k1 v1 k2 v2 k3 v3 h
  obtain ⟨s, hs⟩ := unaryRuleSymbol_ok h
  rw [ja_applyUnary_eq, hs]
  split
  · exact ⟨_, rfl⟩
  · exact ⟨_, rfl⟩

/-- The English binary rules never raise on unary-feature categories with non-empty atom names. -/
theorem total_en : TotalEnStatement := by
  intro seen x y hx hy nx ny
  have h := en_applyAll_total (allUnary_kind (erase_allUnary isNb hx))
    (allUnary_kind (erase_allUnary isNb hy)) (erase_nonEmpty isNb nx) (erase_nonEmpty isNb ny)
  rw [en_applyBinary_eq]
  cases seen with
  | none => exact h
  | some S =>
    dsimp only
    split
    · exact h
    · exact ⟨_, rfl⟩

/-- The Japanese binary rules never raise on three-part-feature categories. -/
theorem total_ja : TotalJaStatement := by
  intro seen x y hx hy
  have h := ja_applyAll_total (allTernary_kind hx) (allTernary_kind hy)
  cases seen with
  | none => exact h
  | some S =>
    simp only [Ja.applyBinary]
    split
    · exact h
    · exact ⟨_, rfl⟩

/-- Success of matching is independent of the visiting order (the no-exception hypotheses are not even needed). -/
theorem ok_order_independent : OkOrderIndependentStatement := by
  intro ord px py x y hord _ _
  rw [unify, C06.unifyOrd_succeeds_iff hord, C06.unifyOrd_succeeds_iff (ord := id) fun l => .refl l]

/-- Without a conflict the bindings are independent of the visiting order. -/
theorem order_irrelevant : OrderIrrelevantStatement := by
  intro ord px py x y k hord hnc σ τ hσ hτ
  obtain ⟨⟨h1, h2⟩, -, rfl⟩ := (C06.unifyOrd_spec ..).1 hσ
  obtain ⟨-, -, rfl⟩ := (C06.unifyOrd_spec ..).1 hτ
  -- both mappings are the assignments of the shared variables, written in two orders
  have hf := functional_assignments (hnc _ _ _ _ (C06.scan_eq h1) (C06.scan_eq h2))
  have hm : ∀ f, Dict.get? (C06.setAll [] ((ord (C06.sharedOf px py x y)).filterMap
      (assignment (C06.xfOf px x) (C06.xfOf py y)))) f =
      Dict.get? (C06.setAll [] ((C06.sharedOf px py x y).filterMap
        (assignment (C06.xfOf px x) (C06.xfOf py y)))) f := by
    intro f
    apply Option.ext
    intro g
    rw [C06.get?_setAll_nil hf, C06.get?_setAll_nil fun k v v' h1 h2 =>
        hf k v v' (((hord _).filterMap _).mem_iff.1 h1) (((hord _).filterMap _).mem_iff.1 h2)]
    exact ((hord _).filterMap _).mem_iff
  simp only [Bindings.get]
  cases Dict.get? (C06.parts px py x y) k with
  | none => rfl
  | some c => simp only [id_eq, subst_congr hm]

/-- With a conflict the order matters: `S[X]/(S[X]\NP[X])` applied to `S[dcl]\NP[b]`. -/
theorem order_matters_witness : OrderMattersWitnessStatement := by
  refine ⟨wpx, wpy, wx, wy, ⟨[([97], wS "X"), ([98], wy)], [(.un (some (lit "X")), .un (some (lit "b")))]⟩, ⟨[([97], wS "X"), ([98], wy)], [(.un (some (lit "X")), .un (some (lit "dcl")))]⟩, ?_, ?_, ?_⟩
  · rfl
  · rfl
  · decide

/-! ### non-vacuity -/

section examples

/-- `S[dcl]/NP[nb]` and `NP` -/
private def exX : Cat := .fn (wS "dcl") cSlash (wNP "nb")
private def exY : Cat := .atom (lit "NP") (.un none)
/-- the key under which the pair is looked up: `S[dcl]/NP` , `NP` -/
private def exKey : Cat × Cat := (.fn (wS "dcl") cSlash (.atom (lit "NP") (.un none)), exY)

-- the hypotheses of `seen_gate_en` are met and the gate is open for the erased pair ...
example : Cat.clear nbX exX = .ok exKey.1 ∧ Cat.clear nbX exY = .ok exKey.2 := by decide
example : inSeen [exKey] exKey.1 exKey.2 = true := by decide
example : En.applyBinary (some [exKey]) exX exY =
    .ok [⟨wS "dcl", lit "fa", lit ">", true⟩] := by decide +kernel
-- ... closed for the raw pair (the `nb` mark is not part of the key) and for an empty set
example : inSeen [(exX, exY)] exKey.1 exKey.2 = false := by decide
example : En.applyBinary (some [(exX, exY)]) exX exY = .ok [] := by decide +kernel
example : En.applyBinary (some []) exX exY = .ok [] := by decide +kernel
-- Japanese: the raw pair is the key
example : Ja.applyBinary (some [(exX, exY)]) exX exY =
    .ok [⟨wS "dcl", lit "fa", lit ">", false⟩] := by decide +kernel
example : Ja.applyBinary (some [exKey]) exX exY = .ok [] := by decide +kernel

-- the hypotheses of `total_en` / `total_ja` are satisfiable
example : AllUnary exX ∧ AllUnary exY ∧ NonEmptyBases exX ∧ NonEmptyBases exY :=
  ⟨⟨trivial, trivial⟩, trivial, ⟨(by decide : lit "S" ≠ []), (by decide : lit "NP" ≠ [])⟩,
    (by decide : lit "NP" ≠ [])⟩
example : AllTernary (Ja.triCat "S" "mod" "nm" "form" "base" "fin" "f") := trivial
-- and they are needed: an empty atom name makes `_is_punct` raise, mixed feature systems make
-- `unifies` raise
example : En.applyBinary none (.atom [] (.un none)) exY = .error .indexError := by decide +kernel
example : Ja.applyBinary none (.fn (Ja.triCat "S" "mod" "nm" "form" "base" "fin" "f") cSlash
      (Ja.triCat "NP" "case" "ga" "mod" "nm" "fin" "f")) exY = .error .attributeError := by
  decide +kernel

-- unary rules: a table with a hit
example : (En.applyUnary [(exY, [exX, exY])] exY).map (·.cat) = [exX, exY] := by decide +kernel
example : Ja.resultAtom (.fn (Ja.triCat "S" "mod" "adn" "form" "base" "fin" "f") cSlash exY) =
    Ja.triCat "S" "mod" "adn" "form" "base" "fin" "f" := rfl

-- `NoConflict` fails for the witness pair (so the hypothesis of `order_irrelevant` is not idle) ...
example : ¬ NoConflict wpx wpy wx wy := by
  intro h
  have h1 : unifyOrd List.reverse wpx wpy wx wy =
      .ok (some ⟨[([97], wS "X"), ([98], wy)], [(.un (some (lit "X")), .un (some (lit "dcl")))]⟩) := rfl
  have h2 : unify wpx wpy wx wy =
      .ok (some ⟨[([97], wS "X"), ([98], wy)], [(.un (some (lit "X")), .un (some (lit "b")))]⟩) := rfl
  have := order_irrelevant List.reverse wpx wpy wx wy [97] (fun l => List.reverse_perm l) h _ _ h1 h2
  revert this
  decide

-- ... and holds, with a successful match that instantiates a variable, for `S[X]/NP[X]` applied
-- to `NP[b]`
example : NoConflict wpx wpy (.fn (wS "X") cSlash (wNP "X")) (wNP "b") ∧
    ∃ σ, unify wpx wpy (.fn (wS "X") cSlash (wNP "X")) (wNP "b") = .ok (some σ) ∧
      σ.get [97] = .ok (wS "b") := by
  refine ⟨?_, ⟨_, _⟩, rfl, by decide⟩
  intro cats1 xf cats2 yf h1 h2
  have e1 : scan wpx (.fn (wS "X") cSlash (wNP "X")) [] [] =
      (true, [([97], wS "X"), ([98], wNP "X")],
        [([97], .un (some (lit "X"))), ([98], .un (some (lit "X")))]) := rfl
  cases h1.symm.trans e1
  have e2 : scan wpy (wNP "b") [([97], wS "X"), ([98], wNP "X")] [] =
      (true, [([97], wS "X"), ([98], wNP "b")], [([98], .un (some (lit "b")))]) := rfl
  cases h2.symm.trans e2
  have sv : sharedVars [([97], Feat.un (some (lit "X"))), ([98], .un (some (lit "X")))]
      [([98], .un (some (lit "b")))] = [[98]] := rfl
  rw [sv]
  intro v hv w hw a b ha hb _
  cases List.mem_singleton.1 hv
  cases List.mem_singleton.1 hw
  cases ha.symm.trans hb
  rfl

end examples

end Depccg.C14
