/-
  C12  Rule labels and head directions on trees are those the grammar assigned.

  (a) Parser output: `SearchProps.returned_valid` — every node of a returned derivation carries the
      rule id of the grammar result that created it (`Licensed`: `(g.bin …)[rid]? = some ⟨cat, headLeft⟩`,
      `(g.un …)[rid]? = some cat`); the glue turns the rule id into label / symbol / head direction
      by indexing the same cache row: `mirrors_of_retrieve`, `labels_from_creator` (`C12Glue.lean`),
      and `EndToEnd.mirrors_licensed` for the rule functions' own results.
  (b) Readers: `guess_derivable` / `guess_underivable` below; the readers' images (`TextProps.autoImage`, `C20.ptbImage`)
      label binary nodes with exactly this `guess`, see C08.auto_roundtrip / C20.ptb_roundtrip.
-/
import Depccg.Props.SearchBasics
import Depccg.Props.C12Glue
import Depccg.Tree
import Depccg.Props.C13
import Depccg.Proofs.TreeLemmas

namespace Depccg.C12
open Depccg

theorem find?_pyEq_some {rs : List RuleRes} {t : Cat} {r : RuleRes}
    (hf : rs.find? (fun r => Cat.pyEq r.cat t) = some r) : r ∈ rs ∧ r.cat = t :=
  ⟨List.mem_of_find?_eq_some hf,
    (C13.pyEq_iff r.cat t).1 (List.find?_some (p := fun r : RuleRes => Cat.pyEq r.cat t) hf)⟩

theorem find?_pyEq_none {rs : List RuleRes} {t : Cat}
    (hf : rs.find? (fun r => Cat.pyEq r.cat t) = none) : ¬ ∃ r ∈ rs, r.cat = t := by
  simp only [C13.pyEq_decide, List.find?_eq_none, decide_eq_true_eq] at hf
  exact fun ⟨r, hr, hc⟩ => hf r hr hc

/-- a binary node whose category the active grammar derives from its children carries the label,
    symbol and head direction of a rule result deriving it (the first one: `guess_eq`) … -/
theorem guess_derivable (lang : Lang) (target x y : Cat) (rs : List RuleRes)
    (h : binaryRules lang x y = .ok rs) (hd : ∃ r ∈ rs, r.cat = target) :
    ∃ r, guess lang target x y = .ok r ∧ r ∈ rs ∧ r.cat = target := by
  rw [guess_eq h]
  cases hf : rs.find? (fun r => Cat.pyEq r.cat target) with
  | none => exact absurd hd (find?_pyEq_none hf)
  | some r => exact ⟨r, rfl, find?_pyEq_some hf⟩

/-- … and only underivable nodes are labelled unknown -/
theorem guess_underivable (lang : Lang) (target x y : Cat) (rs : List RuleRes)
    (h : binaryRules lang x y = .ok rs) (hd : ¬ ∃ r ∈ rs, r.cat = target) :
    guess lang target x y = .ok (unkRule target) := by
  rw [guess_eq h]
  cases hf : rs.find? (fun r => Cat.pyEq r.cat target) with
  | none => rfl
  | some r => exact absurd ⟨r, find?_pyEq_some hf⟩ hd

/-- the guessed rule never changes the category written in the file -/
theorem guess_cat (lang : Lang) (target x y : Cat) (r : RuleRes) (h : guess lang target x y = .ok r) :
    r.cat = target := by
  cases hb : binaryRules lang x y with
  | error e => simp [guess, hb] at h
  | ok rs =>
    rw [guess_eq hb] at h
    cases hf : rs.find? (fun r => Cat.pyEq r.cat target) with
    | none => rw [hf] at h; cases h; rfl
    | some r' => rw [hf] at h; cases h; exact (find?_pyEq_some hf).2

end Depccg.C12
