/-
  C15 at the level of files: `xml_text_decode` composed with `xml_roundtrip`, `jigg_text_decode` with
  `jigg_roundtrip_ja` along the sentences of a batch.
-/
import Depccg.Proofs.C15FileLemmas
import Depccg.Props.C15Text
import Depccg.Props.C15

namespace Depccg.C15File
open Depccg Str Xml TextProps C15

/-- the C&C XML text of a batch, read back by `read_xml`: the image of `xml_roundtrip` for every tree -/
theorem xml_file_roundtrip : XmlFileRoundtripStatement := by
  intro lang batch text hall htext
  have hdec := C15Text.xml_text_decode batch text (fun ts hts t ht => (hall ts hts t ht).2.2.2) htext
  unfold readXmlFile
  rw [hdec]
  refine Cli.mapExcept_forall2 (fun c : CcgElem => readXTree lang c.tree) _ _
    (cf_xmlOfAux_trees batch 1) ?_
  intro t ht c hc
  obtain ⟨ts, hts, htt⟩ := List.mem_flatten.1 ht
  obtain ⟨h1, h2, h3, _⟩ := hall ts hts t htt
  obtain ⟨t', himg, hread⟩ := C15.xml_roundtrip lang t 0 h1 h2 h3
  refine ⟨(t', t'.tokens), ?_, t', himg, rfl⟩
  show readXTree lang c.tree = _
  rw [hc]
  exact hread

/-- the Jigg XML text of a Japanese batch, read back by `read_jigg_xml`: categories, shape, words -/
theorem jigg_file_roundtrip_ja : JiggFileRoundtripJaStatement := by
  intro batch text hall htext
  obtain ⟨ss, hj, -⟩ := jiggText_ok_iff.1 htext
  have hdec := C15Text.jigg_text_decode true batch ss text
    (fun ts hts p hp => ((hall ts hts).2.1 p hp).2.2.2) hj htext
  unfold readJiggFile
  simp only [hdec, cf_batch_scores]
  have hj' : jiggOfAux true (batch.map fun ts => ts.map fun p => p.1) 0 = .ok ss := hj
  obtain ⟨rss, hrss, hmap⟩ := cf_jigg_batch (batch.map fun ts => ts.map fun p => p.1) 0 ss
    (List.forall_mem_map.2 fun ts hts =>
      have ⟨hne, h1, h2⟩ := hall ts hts
      ⟨fun e => hne (List.map_eq_nil_iff.1 e),
        List.forall_mem_map.2 fun p hp => ⟨(h1 p hp).1, (h1 p hp).2.1, (h1 p hp).2.2.1⟩,
        List.forall_mem_map.2 fun p hp => (List.forall_mem_map (P := fun t' : Tree => p.1.tokens = t'.tokens)).2 (h2 p hp)⟩) hj'
  exact ⟨rss.flatten, by simp only [hrss], hmap⟩

end Depccg.C15File
