/-
  The score texts.  There is no float in the model: a score is `k : Int` standing for `k/64`, and `Cli.fmt5e` (`'{:.5e}'`, html) and
  `Cli.fmt8` (`'{:.8f}'`, record headers) compute on the exact value `|k| · 15625 / 10^6`; that the text is CPython's is compared by
  the harness (op `numfmt`), not proved.  What `dec5e` reads back from `fmt5e k` is that value correctly rounded to six significant
  digits — without error when it has at most six, monotone in `k > 0` —, and both texts of a negative score are `-` followed by
  the text of the magnitude.  (`fmt8 k` reads back to `k`: `fmt8_roundtrip`.)
-/
import Depccg.Proofs.NumFmtLemmas
import Depccg.Proofs.ScoreLemmas

namespace Depccg.NumProps
open Depccg Str Cli

theorem fmt5e_correct : Fmt5eCorrectStatement := by
  intro k hk
  have hn : 15625 ≤ k.natAbs * 15625 := by omega
  have ⟨q1, q2⟩ := nf_qOf_bounds (k.natAbs * 15625) (by omega)
  have ⟨e2, e3⟩ := nf_err_round hn
  exact ⟨_, _, nf_dec5e_fmt5e k hk, q1, q2, nf_eOf_ge hn, e2, e3⟩

theorem fmt5e_zero : Fmt5eZeroStatement := by
  show fmt5e 0 = lit "0.00000e+00"
  rfl

theorem fmt5e_exact : Fmt5eExactStatement := by
  intro k hk hlen q e h
  rw [nf_dec5e_fmt5e k hk] at h
  simp only [Option.some.injEq, Prod.mk.injEq, true_and] at h
  obtain ⟨rfl, rfl⟩ := h
  exact Int.sub_eq_zero.2 (nf_err_exact (by omega) hlen)

theorem fmt5e_monotone : Fmt5eMonotoneStatement := by
  intro a b ha hab qa ea qb eb h1 h2
  rw [nf_dec5e_fmt5e a (by omega)] at h1
  rw [nf_dec5e_fmt5e b (by omega)] at h2
  simp only [Option.some.injEq, Prod.mk.injEq] at h1 h2
  obtain ⟨_, rfl, rfl⟩ := h1
  obtain ⟨_, rfl, rfl⟩ := h2
  exact nf_mono (by omega) (by omega)

theorem fmt5e_neg : Fmt5eNegStatement := by
  intro k hk
  rw [nf_fmt5e_eq (-k) (by omega), nf_fmt5e_eq k (by omega), Int.natAbs_neg,
    if_pos (show -k < 0 by omega), if_neg (show ¬ k < 0 by omega)]
  -- not `rfl`: the kernel would unfold the text on both sides
  exact List.cons_append

theorem fmt8_neg : Fmt8NegStatement := by
  intro k hk
  rw [CliProps.fmt8_eq (-k), CliProps.fmt8_eq k, Int.natAbs_neg,
    if_pos (show -k < 0 by omega), if_neg (show ¬ k < 0 by omega)]
  rfl

example : fmt8 (-96) = lit "-1.50000000" := by decide +kernel

example : fmt5e (-96) = lit "-1.50000e+00" := by decide +kernel
example : fmt5e 1 = lit "1.56250e-02" := by decide +kernel
example : fmt5e 64 = lit "1.00000e+00" := by decide +kernel
example : fmt5e 640016 = lit "1.00002e+04" := by decide +kernel       -- 10000.25: tie, to even
example : fmt5e 640048 = lit "1.00008e+04" := by decide +kernel       -- 10000.75: tie, to even
example : fmt5e 63999968 = lit "1.00000e+06" := by decide +kernel     -- 999999.5: carry into the exponent
example : fmt5e (-63999968) = lit "-1.00000e+06" := by decide +kernel
example : fmt5e (64 * 10 ^ 100) = lit "1.00000e+100" := by decide +kernel   -- a three-digit exponent
example : dec5e (fmt5e (64 * 10 ^ 100)) = some (false, 100000, 100) := by decide +kernel
example : dec5e (fmt5e 63999968) = some (false, 100000, 6) := by decide +kernel
example : dec5e (fmt5e (-1)) = some (true, 156250, -2) := by decide +kernel

end Depccg.NumProps
