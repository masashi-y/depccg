/-
  C13  Categories behave as values: `==` is structural, the hashed key determines the value,
  `^` is equality after forgetting the features, `clear_features` erases exactly the named ones.
-/
import Depccg.Cat

namespace Depccg.C13
open Depccg Cat

theorem feat_pyEq_iff (f g : Feat) : Feat.pyEq f g = true ↔ f = g := by
  cases f <;> cases g <;> simp only [Feat.pyEq, Bool.and_eq_true, beq_iff_eq, and_assoc,
    Feat.un.injEq, Feat.tri.injEq, Bool.false_eq_true, reduceCtorEq]

/-- `a == b` (the hand-written `__eq__`) holds exactly for identical structure, slashes, atoms
    and features. -/
theorem pyEq_iff (a b : Cat) : Cat.pyEq a b = true ↔ a = b := by
  induction a generalizing b with
  | atom ba fa =>
    cases b <;> simp only [Cat.pyEq, Bool.and_eq_true, beq_iff_eq, feat_pyEq_iff, Cat.atom.injEq,
      Bool.false_eq_true, reduceCtorEq]
  | fn l s r ihl ihr =>
    cases b <;> simp only [Cat.pyEq, Bool.and_eq_true, beq_iff_eq, ihl, ihr, and_assoc,
      Cat.fn.injEq, Bool.false_eq_true, reduceCtorEq]

/-- `pyEq_iff` as an equation between booleans: rewrites `pyEq` under `find?`, `filter`, `if` -/
theorem pyEq_decide (a b : Cat) : Cat.pyEq a b = decide (a = b) := by
  rw [Bool.eq_iff_iff, pyEq_iff, decide_eq_true_iff]

/-- equal categories hash the same tuple, so dict/set lookups keyed by categories find them -/
theorem hash_coherent (a b : Cat) (h : Cat.pyEq a b = true) : Cat.hashKey a = Cat.hashKey b := by
  rw [(pyEq_iff a b).1 h]

theorem feat_hashKey_injective (f g : Feat) (h : Feat.hashKey f = Feat.hashKey g) : f = g := by
  cases f <;> cases g <;> simp_all [Feat.hashKey]

/-- and the hashed tuple determines the value (no field is left out of the hash) -/
theorem hashKey_injective (a b : Cat) (h : Cat.hashKey a = Cat.hashKey b) : a = b := by
  induction a generalizing b with
  | atom ba fa =>
    cases b with
    | atom bb fb =>
      simp only [Cat.hashKey, HashKey.atomK.injEq] at h
      rw [h.1, feat_hashKey_injective _ _ h.2]
    | fn _ _ _ => simp only [Cat.hashKey] at h; cases h
  | fn l s r ihl ihr =>
    cases b with
    | atom _ _ => simp only [Cat.hashKey] at h; cases h
    | fn l' s' r' =>
      simp only [Cat.hashKey, HashKey.fnK.injEq] at h
      rw [ihl _ h.1, h.2.1, ihr _ h.2.2]

/-- `category == "text"` succeeds exactly for the category's own canonical text -/
theorem eqStr_iff (c : Cat) (s : Str) : Cat.pyEqStr c s = true ↔ s = c.str :=
  beq_iff_eq.trans eq_comm

/-- the category with every feature forgotten -/
def blind : Cat → Cat
  | .atom b _ => .atom b (.un none)
  | .fn l s r => .fn (blind l) s (blind r)

/-- `a ^ b` compares what is left of `a` and `b` when the features are forgotten -/
theorem xorEq_iff_blind (a b : Cat) : Cat.xorEq a b = true ↔ blind a = blind b := by
  induction a generalizing b with
  | atom ba fa =>
    cases b <;> simp only [Cat.xorEq, blind, beq_iff_eq, Cat.atom.injEq, and_true,
      Bool.false_eq_true, reduceCtorEq]
  | fn l s r ihl ihr =>
    cases b <;> simp only [Cat.xorEq, blind, Bool.and_eq_true, beq_iff_eq, ihl, ihr, and_assoc,
      Cat.fn.injEq, Bool.false_eq_true, reduceCtorEq]

theorem xor_refl (a : Cat) : Cat.xorEq a a = true := (xorEq_iff_blind a a).2 rfl

theorem xor_symm (a b : Cat) (h : Cat.xorEq a b = true) : Cat.xorEq b a = true :=
  (xorEq_iff_blind b a).2 ((xorEq_iff_blind a b).1 h).symm

theorem xor_equivalence : Equivalence (fun a b : Cat => Cat.xorEq a b = true) :=
  ⟨xor_refl, fun {a b} h => xor_symm a b h, fun {a b c} h1 h2 =>
    (xorEq_iff_blind a c).2 (((xorEq_iff_blind a b).1 h1).trans ((xorEq_iff_blind b c).1 h2))⟩

/-- equal categories are feature-blind equal -/
theorem xor_of_eq (a b : Cat) (h : Cat.pyEq a b = true) : Cat.xorEq a b = true := by
  rw [(pyEq_iff a b).1 h]; exact xor_refl b

/-- strictly coarser: `S[dcl] ^ S` although `S[dcl] ≠ S` -/
theorem xor_coarser_witness :
    ∃ a b : Cat, Cat.xorEq a b = true ∧ Cat.pyEq a b = false :=
  ⟨.atom [83] (.un (some [100, 99, 108])), .atom [83] (.un none), by decide, by decide⟩

/-- `f` is one of the named features: some argument text reads (as `Feature.parse` does) to `f` -/
def named (args : List Str) (f : Feat) : Bool :=
  args.any fun a => match Feat.parse a with | .ok g => Feat.pyEq f g | .error _ => false

/-- the specification: replace the feature of exactly the atoms whose feature is named -/
def erase (p : Feat → Bool) : Cat → Cat
  | .atom b f => if p f then .atom b (.un none) else .atom b f
  | .fn l s r => .fn (erase p l) s (erase p r)

def atoms : Cat → List (Str × Feat)
  | .atom b f => [(b, f)]
  | .fn l _ r => atoms l ++ atoms r

/-- the category with every atom forgotten: slashes and bracketing only -/
inductive Skel where
  | leaf
  | node (l : Skel) (s : Nat) (r : Skel)
  deriving DecidableEq

def skel : Cat → Skel
  | .atom _ _ => .leaf
  | .fn l s r => .node (skel l) s (skel r)

def WellFormedArgs (args : List Str) : Prop := ∀ a ∈ args, ∃ g, Feat.parse a = .ok g

theorem featIn_eq (f : Feat) (args : List Str) (h : WellFormedArgs args) :
    Cat.featIn f args = .ok (named args f) := by
  induction args with
  | nil => simp [Cat.featIn, named]
  | cons a as ih =>
    obtain ⟨g, hg⟩ := h a (by simp)
    have ih' := ih (fun x hx => h x (by simp [hx]))
    simp only [Cat.featIn, Feat.pyEqStr, hg, named, List.any_cons]
    cases hfg : Feat.pyEq f g
    · simp only [ih', named, Bool.false_or]
    · simp

@[simp] theorem erase_atom (p : Feat → Bool) (b : Str) (f : Feat) :
    erase p (.atom b f) = .atom b (if p f then .un none else f) := by
  simp only [erase]; split <;> rfl

/-- `clear_features(*args)` never raises on readable feature names and removes exactly the
    named features, everywhere -/
theorem clear_spec (args : List Str) (h : WellFormedArgs args) (c : Cat) :
    Cat.clear args c = .ok (erase (named args) c) := by
  induction c with
  | atom b f =>
    simp only [Cat.clear, featIn_eq f args h, erase]
    cases named args f <;> rfl
  | fn l s r ihl ihr => simp only [Cat.clear, ihl, ihr, erase]

/-- ... which means: the atoms are the old atoms with named features replaced by "no
    feature", in the same order, and slashes/bracketing are untouched -/
theorem erase_atoms (p : Feat → Bool) (c : Cat) :
    atoms (erase p c) = (atoms c).map fun bf => (bf.1, if p bf.2 then Feat.un none else bf.2) := by
  induction c with
  | atom b f => rw [erase_atom]; rfl
  | fn l s r ihl ihr => simp only [erase, atoms, ihl, ihr, List.map_append]

theorem erase_skel (p : Feat → Bool) (c : Cat) : skel (erase p c) = skel c := by
  induction c with
  | atom b f => rw [erase_atom]; rfl
  | fn l s r ihl ihr => simp only [erase, skel, ihl, ihr]

/-- the skeleton says where each category's atoms end in a list of atoms -/
theorem skel_atoms_cancel (a b : Cat) (r₁ r₂ : List (Str × Feat)) (hs : skel a = skel b)
    (ha : atoms a ++ r₁ = atoms b ++ r₂) : a = b ∧ r₁ = r₂ := by
  induction a generalizing b r₁ r₂ with
  | atom ba fa =>
    cases b with
    | atom bb fb =>
      simp only [atoms, List.cons_append, List.nil_append, List.cons.injEq, Prod.mk.injEq] at ha
      exact ⟨by rw [ha.1.1, ha.1.2], ha.2⟩
    | fn _ _ _ => cases hs
  | fn l s r ihl ihr =>
    cases b with
    | atom _ _ => cases hs
    | fn l' s' r' =>
      simp only [skel, Skel.node.injEq] at hs
      simp only [atoms, List.append_assoc] at ha
      obtain ⟨rfl, ha'⟩ := ihl l' _ _ hs.1 ha
      obtain ⟨rfl, hr⟩ := ihr r' _ _ hs.2.2 ha'
      exact ⟨by rw [hs.2.1], hr⟩

/-- a category is determined by its skeleton and atoms, so `erase_atoms` and `erase_skel` say
    everything about `erase` -/
theorem skel_atoms_determine (a b : Cat) (hs : skel a = skel b) (ha : atoms a = atoms b) : a = b :=
  (skel_atoms_cancel a b [] [] hs (by rw [ha])).1

theorem erase_erase_of_imp {p q : Feat → Bool} (h : ∀ f, p f = true → q f = true) (c : Cat) :
    erase q (erase p c) = erase q c := by
  induction c with
  | atom b f =>
    simp only [erase_atom]
    cases hp : p f
    · rfl
    · simp only [if_true, h f hp]; split <;> rfl
  | fn l s r ihl ihr => simp only [erase, ihl, ihr]

/-- erasing twice is erasing once -/
theorem clear_idem (args : List Str) (h : WellFormedArgs args) (c : Cat) :
    (Cat.clear args c >>= Cat.clear args) = Cat.clear args c := by
  rw [clear_spec args h c]
  show Cat.clear args (erase (named args) c) = _
  rw [clear_spec args h, erase_erase_of_imp fun _ hf => hf]

/-- features that are not named survive: erasure changes nothing else -/
theorem erase_unnamed (p : Feat → Bool) (c : Cat) (h : ∀ bf ∈ atoms c, p bf.2 = false) :
    erase p c = c := by
  induction c with
  | atom b f => rw [erase_atom, h (b, f) List.mem_cons_self]; rfl
  | fn l s r ihl ihr =>
    simp only [atoms, List.mem_append] at h
    rw [erase, ihl fun bf hbf => h bf (Or.inl hbf), ihr fun bf hbf => h bf (Or.inr hbf)]

/-- erasing nothing changes nothing -/
theorem clear_nil (c : Cat) : Cat.clear [] c = .ok c := by
  rw [clear_spec [] (fun _ h => nomatch h), erase_unnamed _ _ fun _ _ => rfl]

/-! ### non-vacuity: concrete instances meeting the hypotheses -/

example : WellFormedArgs [Str.lit "X", Str.lit "nb"] := by
  intro a ha
  simp at ha
  rcases ha with rfl | rfl <;> exact ⟨_, rfl⟩

-- NP[nb]/N with 'nb' erased is NP/N
example : Cat.clear [Str.lit "nb"] (.fn (.atom (Str.lit "NP") (.un (some (Str.lit "nb")))) 47 (.atom (Str.lit "N") (.un none)))
    = .ok (.fn (.atom (Str.lit "NP") (.un none)) 47 (.atom (Str.lit "N") (.un none))) := by decide

end Depccg.C13
