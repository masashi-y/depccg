/-
  C11 for `depccg.parsing.run` itself (`Lazy.parsingRun`): chunking and worker processes on top of
  `_parsing.run` (`Lazy.runBatch`). Whatever `max_chunk_size` and `processes` are, the result is
  one entry per sentence, in input order, each the result of parsing that sentence alone.
  `Glue.runBatch` is the same driver with the call on a chunk abstracted to `map solo`
  (`C11.runBatch_eq`); `Lazy.runBatch` is `_parsing.run`, not this function.
-/
import Depccg.Props.LazyHistory
import Depccg.Proofs.C11Lemmas

namespace Depccg.LazyProps
open Depccg Search SearchProps GlueTree GlueRun Lazy GlueRunProps

theorem callResults_eq (G : GlueRun.CatGrammar) (categories roots : List Cat) (cfg : Cfg)
    (maxLength : Option Nat) (doc : List SentIn) (hnd : categories.Nodup)
    (hlex : ∀ x ∈ doc, LexOK categories x) :
    callResults G categories roots cfg maxLength doc = .ok (doc.map (solo G categories roots cfg maxLength)) := by
  obtain ⟨outs, gstF, hrun, hmap⟩ := batch_eq_map_solo G categories roots cfg maxLength doc hnd hlex
  unfold callResults
  rw [hrun]
  simp only [hmap]

theorem collect_map_ok {α β : Type} (f : List α → List β) (cs : List (List α)) :
    collect (cs.map fun c => (Except.ok (f c) : Except Err (List β))) = .ok (cs.map f).flatten := by
  induction cs with
  | nil => rfl
  | cons c cs ih =>
    simp only [List.map_cons, collect, ih, List.flatten_cons]

/-- `parsingRun` is the batch driver of `Glue` over `solo`, which is `map solo` (`C11.runBatch_eq`) -/
theorem parsing_run_eq_map_solo : ParsingRunEqMapSoloStatement := by
  intro G categories roots cfg maxLength maxChunk procs doc hnd hlex
  refine Eq.trans ?_ (C11.runBatch_eq (solo G categories roots cfg maxLength) doc maxChunk procs)
  -- `parsingRun` is written with the `if … else match chunks …` of `Glue.runBatch`, so `split` cuts both sides alike
  unfold parsingRun Glue.runBatch
  split
  · exact callResults_eq G categories roots cfg maxLength doc hnd hlex
  · cases hc : Glue.chunks doc procs with
    | error e => rfl
    | ok cs =>
      have hmap : cs.map (callResults G categories roots cfg maxLength)
          = cs.map fun c => (Except.ok (c.map (solo G categories roots cfg maxLength)) : Except Err _) := by
        apply List.map_congr_left
        intro c hc'
        refine callResults_eq G categories roots cfg maxLength c hnd (fun x hx => hlex x ?_)
        rw [← C11.chunks_flatten hc]
        exact List.mem_flatten.2 ⟨c, hc', hx⟩
      simp only []
      rw [hmap, collect_map_ok]

end Depccg.LazyProps
