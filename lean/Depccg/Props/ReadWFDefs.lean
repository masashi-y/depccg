/-
  The category values `Category.parse` returns (`ProgramProps.parse_wf_partial`): `C05.WF`, but an
  atom may be named `[` or `]` and the text of a one-part feature may be any token; `BracketFree`
  says that neither happens.
-/
import Depccg.Props.C05Defs

namespace Depccg.ProgramProps
open Depccg Str

/-- a token of the reader: a plain token, or one of the nine characters the tokenizer isolates -/
def Tok (s : Str) : Prop := C05.PlainTok s ∨ ∃ c, Cat.isSpecial c = true ∧ s = [c]

/-- what the reader takes as an atom name: a plain token, or a square bracket -/
def ReadName (b : Str) : Prop := C05.PlainTok b ∨ b = [cLBr] ∨ b = [cRBr]

/-- as `C05.WFFeat`, but the text of a one-part feature is any token -/
def ReadFeat : Feat → Prop
  | .un none => True
  | .un (some v) => Tok v ∧ ¬ (hasChar cEq v = true ∧ hasChar cComma v = true)
  | .tri k1 v1 k2 v2 k3 v3 =>
    C05.TriPart k1 ∧ C05.TriPart v1 ∧ C05.TriPart k2 ∧ C05.TriPart v2 ∧ C05.TriPart k3 ∧ C05.TriPart v3

/-- as `C05.WF` with `ReadName` and `ReadFeat` -/
def ReadWF : Cat → Prop
  | .atom b f => ReadName b ∧ ReadFeat f ∧ (b ∈ Cat.punctuations → f = .un none)
  | .fn l s r => ReadWF l ∧ Cat.isSlashCode s = true ∧ ReadWF r

/-- no atom is named `[` or `]`, no one-part feature is one of the nine isolated characters -/
def BracketFree : Cat → Prop
  | .atom b f => b ≠ [cLBr] ∧ b ≠ [cRBr] ∧ ∀ v c, f = .un (some v) → Cat.isSpecial c = true → v ≠ [c]
  | .fn l _ r => BracketFree l ∧ BracketFree r

end Depccg.ProgramProps
