/-
  C05  Category text and category values round-trip.
-/
import Depccg.Props.C05Defs
import Depccg.Proofs.C05Lemmas
import Depccg.Proofs.Lit

namespace Depccg.C05
open Depccg Cat Str

/-- any well-formed text of a value reads to that value -/
theorem parse_denotes : ParseDenotesStatement := by
  intro ts c text he hsp
  rw [parse_eq, tokenize_of_spells hsp]
  exact read_expr_top he

/-- the printed text of a well-formed value is a well-formed text of that value -/
theorem denotes_print : DenotesPrintStatement := by
  intro c hc
  rw [tokenize_str c (ProgramProps.pp_wf_readWF hc)]
  exact expr_toks c hc

/-- print, then parse: the same value -/
theorem parse_print : ParsePrintStatement :=
  fun _ hc => parse_print_readWF (ProgramProps.pp_wf_readWF hc)

/-- `a/b/c` at top level is rejected with `RuntimeError` -/
theorem reject_flat_top : RejectFlatTopStatement := by
  intro t1 t2 t3 a b c s1 s2 text h1 h2 h3 hs1 hs2 hsp
  rw [parse_eq, tokenize_of_spells hsp]
  exact read_flat_top h1 h2 h3 hs1 hs2

/-- `(a/b/c)` inside brackets, whatever follows, is rejected with `AssertionError` -/
theorem reject_flat_inner : RejectFlatInnerStatement := by
  intro t1 t2 t3 pre post a b c s1 s2 o cl text h1 h2 h3 hs1 hs2 ho hcl hpre hsp
  rw [parse_eq, tokenize_of_spells hsp, readToks, read_flat_inner h1 h2 h3 hs1 hs2 ho hcl hpre]

/-! ### the hypotheses are satisfiable -/

/-- `S[dcl]\NP` is a well-formed value … -/
example : WF (.fn (.atom (lit "S") (.un (some (lit "dcl")))) cBSlash (.atom (lit "NP") (.un none))) := by
  refine ⟨⟨⟨by decide, ?_⟩, ⟨⟨by decide, ?_⟩, by decide⟩, by rw [punctuations_eq]; decide_lit⟩,
    by decide, ⟨⟨by decide, ?_⟩, trivial, fun _ => rfl⟩⟩
  all_goals decide_lit

/-- … so printing and reading it back is the identity; here by evaluation -/
example : Cat.parse (lit "S[dcl]\\NP") =
    .ok (.fn (.atom (lit "S") (.un (some (lit "dcl")))) cBSlash (.atom (lit "NP") (.un none))) := by
  decide_lit

/-- `< ( S[dcl] )\NP >  ` with redundant brackets and blanks: tokens, value, spelling -/
theorem example_text :
    Expr [[cLt], [cLPar], lit "S", [cLBr], lit "dcl", [cRBr], [cRPar], [cBSlash], lit "NP", [cGt]]
        (.fn (.atom (lit "S") (.un (some (lit "dcl")))) cBSlash (.atom (lit "NP") (.un none))) ∧
    Spells [[cLt], [cLPar], lit "S", [cLBr], lit "dcl", [cRBr], [cRPar], [cBSlash], lit "NP", [cGt]]
        (lit "< ( S[dcl] )\\NP >  ") := by
  have pS : PlainTok (lit "S") := ⟨by decide, by decide_lit⟩
  have pNP : PlainTok (lit "NP") := ⟨by decide, by decide_lit⟩
  have pdcl : PlainTok (lit "dcl") := ⟨by decide, by decide_lit⟩
  constructor
  · refine Expr.op _ _ (Operand.angle _ _ (Expr.bin _ _ _ _ _ (Operand.round _ _ (Expr.op _ _
      (Operand.feat (lit "S") (.un (some (lit "dcl"))) pS (by rw [punctuations_eq]; decide_lit)
        ⟨pdcl, by decide_lit⟩ (by decide)))) (by decide) (Operand.bare _ pNP)))
  · exact Spells.special 0 cLt _ _ (by decide) <|
      Spells.special 1 cLPar _ _ (by decide) <|
      Spells.plain 1 (lit "S") _ _ pS (Or.inr ⟨_, _, rfl, by decide⟩) <|
      Spells.special 0 cLBr _ _ (by decide) <|
      Spells.plain 0 (lit "dcl") _ _ pdcl (Or.inr ⟨_, _, rfl, by decide⟩) <|
      Spells.special 0 cRBr _ _ (by decide) <|
      Spells.special 1 cRPar _ _ (by decide) <|
      Spells.special 0 cBSlash _ _ (by decide) <|
      Spells.plain 0 (lit "NP") _ _ pNP (Or.inr ⟨_, _, rfl, by decide⟩) <|
      Spells.special 1 cGt _ _ (by decide) <|
      Spells.nil 2

/-- … hence it reads to `S[dcl]\NP`, by the theorem -/
example : Cat.parse (lit "< ( S[dcl] )\\NP >  ") =
    .ok (.fn (.atom (lit "S") (.un (some (lit "dcl")))) cBSlash (.atom (lit "NP") (.un none))) :=
  parse_denotes _ _ _ example_text.1 example_text.2

/-- the two rejections, evaluated -/
example : Cat.parse (lit "a/b\\c") = .error .runtime := by decide_lit
example : Cat.parse (lit "((a/b\\c) x") = .error .assertion := by decide_lit

end Depccg.C05
