/-
  C10 (n-best): `NBestTopKStatement` of `SearchDefs.lean`.  In n-best mode the search enumerates
  derivations best first without ever creating one twice, so — unless the step budget ran out —
  the returned list holds the `nbest` best licensed complete parses, pairwise distinct, and all of
  them when there are fewer than `nbest`.  Proved from the invariant `NB` and the cover lemma
  `coverFin` of `Depccg/Proofs/NBestLemmas.lean`, through `RootCover.not_better` and
  `RootCover.complete`.
-/
import Depccg.Props.SearchBasics
import Depccg.Proofs.NBestLemmas

namespace Depccg.SearchProps
open Depccg Search

theorem mem_results_d {pick : Pick} {g : Grammar} {s : Sent} {cfg : Cfg} {d : Deriv} :
    d ∈ (runWith pick g s cfg).results.map (·.d) ↔
      ∃ r ∈ (loop pick g s cfg cfg.maxStep (init pick s cfg)).goal, r.d = d := by
  simp only [List.mem_map, results_perm.mem_iff]

/-- third conjunct of `NBestTopKStatement`: no derivation is returned twice -/
theorem nbest_nodup (pick : Pick) (g : Grammar) (s : Sent) (cfg : Cfg) (hp : PickOK pick)
    (hn : 1 < cfg.nbest) : ((runWith pick g s cfg).results.map (·.d)).Nodup :=
  ((results_perm.map _).nodup_iff).2 (List.pairwise_map.2 (NB.final hp g s cfg hn).goalD)

/-- first conjunct: a licensed complete parse that is not returned scores no more than any returned one
    (whether or not the step budget ran out) -/
theorem nbest_unreturned_not_better (pick : Pick) (g : Grammar) (s : Sent) (cfg : Cfg)
    (hp : PickOK pick) (hs : SentOK s) (hpen : 0 ≤ cfg.penalty) (hn : 1 < cfg.nbest)
    (d : Deriv) (hd : LicensedRoot g s cfg d) (hnot : d ∉ (runWith pick g s cfg).results.map (·.d))
    (r : Item) (hr : r ∈ (runWith pick g s cfg).results) : modelScore s cfg d ≤ r.prio :=
  (coverFin hp g hn hs hpen).not_better (StOK.final hp g s cfg) (PrioOK.final hp g hs hpen) hd
    (fun h => hnot (mem_results_d.2 h)) (mem_results hr)

/-- second conjunct: fewer than `nbest` results, then every licensed complete parse was returned -/
theorem nbest_complete_when_short (pick : Pick) (g : Grammar) (s : Sent) (cfg : Cfg)
    (hp : PickOK pick) (hs : SentOK s) (hpen : 0 ≤ cfg.penalty) (hn : 1 < cfg.nbest)
    (hsteps : (runWith pick g s cfg).steps < cfg.maxStep)
    (hshort : (runWith pick g s cfg).results.length < cfg.nbest)
    (d : Deriv) (hd : LicensedRoot g s cfg d) : d ∈ (runWith pick g s cfg).results.map (·.d) :=
  mem_results_d.2 ((coverFin hp g hn hs hpen).complete hp
    hsteps (results_perm.length_eq ▸ hshort) hd)

/-! ### C10 (n-best) -/

theorem nbest_topk : NBestTopKStatement := by
  intro pick g s cfg hp hs hpen hn hsteps
  exact ⟨fun d hd hnot r hr => nbest_unreturned_not_better pick g s cfg hp hs hpen hn d hd hnot r hr,
    fun hshort d hd => nbest_complete_when_short pick g s cfg hp hs hpen hn hsteps hshort d hd,
    nbest_nodup pick g s cfg hp hn⟩

namespace Demo

/-- the hypotheses hold for the demo run (`nbest = 2`, 8 steps of 100) -/
example :
    let res := (runWith pickFirstMax g s cfg).results
    (∀ d, LicensedRoot g s cfg d → d ∉ res.map (·.d) → ∀ r ∈ res, modelScore s cfg d ≤ r.prio) ∧
    (res.length < cfg.nbest → ∀ d, LicensedRoot g s cfg d → d ∈ res.map (·.d)) ∧
    (res.map (·.d)).Nodup :=
  nbest_topk pickFirstMax g s cfg pickFirstMax_ok sentOK (by decide) (by decide) (by decide +kernel)

/-- asking for three parses returns only two (11 steps, the agenda runs empty) … -/
example : (run g s { cfg with nbest := 3 }).results.map (·.d) =
    [.bin 2 0 false (.un 0 0 (.leaf 0 3)) (.leaf 1 1), .bin 2 0 false (.leaf 0 0) (.leaf 1 1)] := by
  decide +kernel

/-- … hence the sentence has exactly these two licensed complete parses -/
example (d : Deriv) (hd : LicensedRoot g s { cfg with nbest := 3 } d) :
    d = .bin 2 0 false (.un 0 0 (.leaf 0 3)) (.leaf 1 1) ∨ d = .bin 2 0 false (.leaf 0 0) (.leaf 1 1) := by
  have e : (runWith pickFirstMax g s { cfg with nbest := 3 }).results.map (·.d) =
      [.bin 2 0 false (.un 0 0 (.leaf 0 3)) (.leaf 1 1), .bin 2 0 false (.leaf 0 0) (.leaf 1 1)] := by
    decide +kernel
  have h := (nbest_topk pickFirstMax g s { cfg with nbest := 3 } pickFirstMax_ok sentOK
    (by decide) (by decide) (by decide +kernel)).2.1
    (by rw [← List.length_map (f := (·.d)), e]; decide) d hd
  rw [e] at h
  simpa using h

end Demo

end Depccg.SearchProps
