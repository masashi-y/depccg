/-
  C17  The category dictionary restricts exactly the listed words.
-/
import Depccg.Props.C17Defs
import Depccg.Proofs.C17Lemmas

namespace Depccg.C17
open Depccg Cat Str Glue

/-- the Boolean well-formedness test used on the generated tables implies `C05.WF` -/
theorem wfB_sound : WfBSoundStatement := wfB_sound_aux

/-- a passed `dictWithin` check means every dictionary string is, or reads the same as, an
    inventory string -/
theorem dictWithin_sound : DictWithinSoundStatement := by
  intro targets dictCats residual h
  intro s hs
  simp only [dictWithin, List.all_eq_true, Bool.or_eq_true, List.any_eq_true,
    Bool.and_eq_true, beq_iff_eq] at h
  rcases h s hs with h1 | ⟨p, _, ⟨hp1, hp2⟩, hp3⟩
  · exact ⟨s, by simpa using h1, Or.inr rfl⟩
  · refine ⟨p.2, by simpa using hp2, Or.inl ?_⟩
    subst hp1
    split at hp3
    · rename_i a b ha hb
      rw [ha, hb, beq_iff_eq.1 hp3]
    · cases hp3

/-- elementwise behaviour of the filter on one sentence -/
theorem filter_spec : FilterSpecStatement := by
  intro masks big words rows i c _
  rw [filterRows_getRow]
  unfold filteredRow
  cases words[i]? with
  | none => rfl
  | some w =>
    dsimp only
    cases hl : lookupMask masks w with
    | none => rfl
    | some m => exact maskRow_getD big (getRow rows i) m c

/-- the filter keeps the number of rows and every row length -/
theorem filter_shape : FilterShapeStatement := by
  intro masks big words rows
  refine ⟨filterRows_length masks big words rows, ?_⟩
  intro i
  rw [filterRows_getRow]
  exact filteredRow_length masks big words rows i

/-- `_binarize`: length `n`, True exactly off the listed indices -/
theorem binarize_spec : BinarizeSpecStatement := by
  intro indices n c
  exact ⟨binarize_length indices n, binarize_getD indices n c⟩

/-- no KeyError exactly when every dictionary category is in the category list -/
theorem applicable_iff : ApplicableIffStatement := buildMasks_ok_iff

/-- `catIndex` succeeds exactly on members, and the index it returns holds the category -/
theorem catIndex_spec : CatIndexSpecStatement := by
  intro cats c
  exact ⟨(catIndex_exists cats c).symm, fun i h => catIndex_some h⟩

/-! ### non-vacuity: concrete instances -/

section Examples

/-- categories `S`, `NP`, `N` -/
private def exCats : List Cat :=
  [.atom [83] (.un none), .atom [78, 80] (.un none), .atom [78] (.un none)]

/-- the word `a` (code point 97) is listed with `NP` and `N` only -/
private def exDict : List (Str × List Cat) :=
  [([97], [.atom [78, 80] (.un none), .atom [78] (.un none)])]

-- the mask dictionary built from it: True (= to be masked) exactly at `S`
example : buildMasks exCats 3 exDict = .ok [([97], [true, false, false])] := by decide

-- 2 words `a b`, 2 rows of 3 scores: the row of `a` is masked at `S`, the row of `b` is untouched
example :
    filterRows [([97], [true, false, false])] (-1000) [[97], [98]] [[1, 2, 3], [4, 5, 6]]
      = [[-1000, 2, 3], [4, 5, 6]] := by decide

-- the same through `apply_category_filters` on a one-sentence document
example :
    applyFilters exCats exDict (-1000) 3 [([[97], [98]], [[1, 2, 3], [4, 5, 6]])]
      = .ok [[[-1000, 2, 3], [4, 5, 6]]] := by decide

-- a category outside the list: KeyError
example : applyFilters exCats [([97], [.atom [80, 80] (.un none)])] (-1000) 3 [] = .error .keyError := by
  decide

-- words shorter than rows: the extra row is untouched; words longer than rows: extra words ignored
example :
    filterRows [([97], [true, false, false])] (-1000) [[97]] [[1, 2, 3], [4, 5, 6]]
      = [[-1000, 2, 3], [4, 5, 6]] := by decide
example :
    filterRows [([97], [true, false, false])] (-1000) [[98], [97], [97]] [[1, 2, 3], [4, 5, 6]]
      = [[1, 2, 3], [-1000, 5, 6]] := by decide

-- a mask shorter than the row stops masking where it ends
example : maskRow (-1000) [1, 2, 3] [true] = [-1000, 2, 3] := by decide

-- the last index wins on a list with duplicates, and it still holds the category
example : catIndex [.atom [78] (.un none), .atom [83] (.un none), .atom [78] (.un none)]
    (.atom [78] (.un none)) = some 2 := by decide

-- `S[dcl]\NP` reads to a well-formed category
example : okStr [83, 91, 100, 99, 108, 93, 92, 78, 80] = true := by decide +kernel
example : Str.lit "S[dcl]\\NP" = [83, 91, 100, 99, 108, 93, 92, 78, 80] := by decide
example : okStr (Str.lit "S[dcl]\\NP") = true := by decide +kernel

example : okStr (Str.lit "S[dcl]\\") = false := by decide +kernel

-- `dictWithin` on a residual pair: `(N/N)` is listed with the inventory string `N/N`
example : dictWithin [Str.lit "N/N", Str.lit "NP"] [Str.lit "NP", Str.lit "(N/N)"]
    [(Str.lit "(N/N)", Str.lit "N/N")] = true := by decide +kernel

end Examples

end Depccg.C17
