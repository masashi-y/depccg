/-
  What the program parses with is what the configuration says (`read_params`).
-/
import Depccg.Props.C14
import Depccg.Props.ConfigDefs
import Depccg.Proofs.ConfigLemmas
import Depccg.Proofs.Lit

namespace Depccg.ConfigProps
open Depccg Str Config

/-- The table is built iff every string parses; an entry is the targets of all its lines, in file order. -/
theorem unary_table : UnaryTableStatement := by
  intro pairs
  refine ⟨fun tbl h => ?_, fun ps h => ⟨_, unaryTable_ok_iff.2 ⟨ps, h, rfl⟩⟩⟩
  obtain ⟨ps, hps, _⟩ := unaryTable_ok_iff.1 h
  exact ⟨ps, hps, unaryTable_lookup h hps⟩

theorem program_unary_en : ProgramUnaryEnStatement := by
  intro p dd ds L ps x h hps
  -- `hps`, here and in `program_unary_ja`, only names the parsed rules: whenever `readParams` returns,
  -- some `ps` satisfies it (`unaryTable_ok_iff`)
  rw [C14.unary_exact_en L.table x]
  exact unaryTable_lookup (readParams_ok_iff.1 h).1 hps x

theorem program_unary_ja : ProgramUnaryJaStatement := by
  intro p dd ds L ps x rs h hps hrs
  rw [C14.unary_exact_ja L.table x rs hrs]
  exact unaryTable_lookup (readParams_ok_iff.1 h).1 hps x

/-- The English gate of the program: open iff the erased pair is an erased configured pair. -/
theorem program_gate_en : ProgramGateEnStatement := by
  intro p dd L S x y sx sy h hS hne hx hy
  rw [cf_readParams_seen h hS hne]
  exact C14.seen_gate_en S x y sx sy hx hy

/-- The Japanese gate of the program: the raw pair against the erased configured pairs. -/
theorem program_gate_ja : ProgramGateJaStatement := by
  intro p dd L S x y h hS hne
  rw [cf_readParams_seen h hS hne]
  exact C14.seen_gate_ja S x y

theorem gate_off : GateOffStatement := by
  intro p dd ds L h hoff
  obtain ⟨-, -, hs, -⟩ := readParams_ok_iff.1 h
  cases ds with
  | true => exact (Except.ok.inj hs).symm
  | false =>
    rcases hoff with hd | he
    · cases hd
    · rw [he] at hs
      exact (Except.ok.inj hs).symm

theorem dict_off : DictOffStatement := by
  intro p ds L h
  obtain ⟨-, hd, -, -⟩ := readParams_ok_iff.1 h
  exact (Except.ok.inj hd).symm

theorem dict_roots : DictRootsStatement := by
  intro p dd ds L h
  obtain ⟨-, hd, -, hr⟩ := readParams_ok_iff.1 h
  refine ⟨hr, fun hdd => ?_⟩
  subst hdd
  obtain ⟨d, hm, hL⟩ := Except.map_ok_inv hd
  rw [hL]
  exact ⟨hm, rfl⟩

theorem read_params_total : ReadParamsTotalStatement := by
  intro p dd ds hu hdict hseen ht
  obtain ⟨ps, hps⟩ := Cli.mapExcept_total parsePair p.unaryRules fun q hq => cf_parsePair_total q (hu q hq)
  have h2 : ∃ d, (if dd then (Except.ok none : Except Err (Option (List (Str × List Cat))))
      else (Cli.mapExcept dictEntry p.catDict).map some) = .ok d := by
    cases dd with
    | true => exact ⟨_, rfl⟩
    | false =>
      obtain ⟨d, hd⟩ := Cli.mapExcept_total dictEntry p.catDict fun q hq =>
        cf_dictEntry_total q (hdict rfl q hq)
      exact ⟨some d, by simp only [Bool.false_eq_true, if_false, hd]; rfl⟩
  have h3 : ∃ s, (if ds then (Except.ok none : Except Err (Option (List (Cat × Cat))))
      else seenSet p.seenRules) = .ok s := by
    cases ds with
    | true => exact ⟨_, rfl⟩
    | false => exact cf_seenSet_total p.seenRules (hseen rfl)
  obtain ⟨d, hd⟩ := h2
  obtain ⟨s, hs⟩ := h3
  obtain ⟨roots, hroots⟩ := Cli.mapExcept_total Cat.parse p.targets ht
  exact ⟨⟨_, d, s, roots⟩, readParams_ok_iff.2 ⟨unaryTable_ok_iff.2 ⟨ps, hps, rfl⟩, hd, hs, hroots⟩⟩

section examples

private def cNP : Cat := .atom (lit "NP") (.un none)
private def cN : Cat := .atom (lit "N") (.un none)
private def cS (f : String) : Cat := .atom (lit "S") (.un (some (lit f)))

private def exParams : Params where
  unaryRules := [(lit "N", lit "NP"), (lit "NP", lit "S[dcl]"), (lit "N", lit "S[X]/NP")]
  seenRules := [(lit "S[dcl]/NP[nb]", lit "NP"), (lit "S[dcl]/NP", lit "NP")]
  targets := [lit "S[dcl]", lit "NP"]
  catDict := [(lit "the", [lit "NP/N", lit "N"])]

-- the two `N` lines are grouped under the first key, in file order; the two seen pairs erase to
-- the same pair (a list models the set: membership is all that is asked of it)
example : readParams exParams false false = .ok
    { table := [(cN, [cNP, .fn (cS "X") cSlash cNP]), (cNP, [cS "dcl"])]
      catDict := some [(lit "the", [.fn cNP cSlash cN, cN])]
      seen := some [(.fn (cS "dcl") cSlash cNP, cNP), (.fn (cS "dcl") cSlash cNP, cNP)]
      roots := [cS "dcl", cNP] } := by unfold exParams; decide_lit

example : readParams exParams true true = .ok
    { table := [(cN, [cNP, .fn (cS "X") cSlash cNP]), (cNP, [cS "dcl"])]
      catDict := none, seen := none, roots := [cS "dcl", cNP] } := by decide +kernel

example : (readParams { exParams with seenRules := [] } false false).toOption.map (·.seen) = some none := by
  decide +kernel

example : readParams { exParams with targets := [lit "S[dcl]", lit ")"] } false false =
    .error .indexError := by decide +kernel

end examples

end Depccg.ConfigProps
