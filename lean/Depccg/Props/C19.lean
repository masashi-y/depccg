/-
  C19  Whatever the parser can return can be rendered in every offered format.
-/
import Depccg.Props.C19Defs
import Depccg.Proofs.C19Lemmas
import Depccg.Proofs.JiggSpec
import Depccg.Proofs.C07ConllLemmas
import Depccg.Proofs.C07DerivLemmas
import Depccg.Generated.Labels
import Depccg.Proofs.Lit

namespace Depccg.C19
open Depccg Str Print TextProps

theorem text_render_total : TextRenderTotalStatement := fun t h =>
  ⟨⟨_, C08.autoOf_fields h⟩, ⟨_, C07.autoExtOf_eq t h⟩, ⟨_, C07.cn_conllOf_eq t h⟩, ptbOf_total t h,
    ⟨_, C20.jaOf_eq h⟩, ⟨_, C07.dd_derivOf_eq t h⟩⟩

theorem jigg_render_total : JiggRenderTotalStatement := fun useSymbol batch h =>
  C15.jiggOfAux_total useSymbol batch 0 h

/-- the English Prolog printer never fails on trees with known labels -/
theorem prolog_en_total : PrologEnTotalStatement := by
  intro batch h
  obtain ⟨body, hb⟩ := batch_ok (f := fun (p : Nat × Tree) => (prologEnOne p.2 p.1).map (· ++ [10])) (batch := batch)
    fun ts hts t ht i => by
      obtain ⟨s, hs⟩ := prologEnRec_total t (h ts hts t ht).1 (h ts hts t ht).2 1
      exact ⟨_, Except.map_ok (prologEnOne_ok_iff.2 ⟨s, hs, rfl⟩)⟩
  exact ⟨_, prologEn_ok_iff.2 ⟨body, hb, rfl⟩⟩

/-- the Japanese Prolog printer never fails on trees with known symbols -/
theorem prolog_ja_total : PrologJaTotalStatement := by
  intro batch h
  obtain ⟨body, hb⟩ := batch_ok (batch := batch)
    (f := fun (p : Nat × Tree) =>
      (prologJaRec p.2 1).map fun s => lit "ccg(" ++ Str.ofNat p.1 ++ lit "," ++ s ++ lit ").\n\n")
    fun ts hts t ht i => by
      obtain ⟨s, hs⟩ := prologJaRec_total t (h ts hts t ht).1 (h ts hts t ht).2 1
      exact ⟨_, Except.map_ok hs⟩
  exact ⟨_, prologJa_ok_iff.2 ⟨body, hb, rfl⟩⟩

/-- a batch renders as soon as each of its trees does -/
theorem batch_total : BatchTotalStatement := by
  intro fmt conll batch h
  exact batch_ok fun ts hts p hp i => by
    obtain ⟨s, hs⟩ := h ts hts p hp
    exact ⟨_, Except.map_ok hs⟩

/-- the failure placeholder satisfies the hypotheses of every theorem above -/
theorem placeholder_renders : PlaceholderRendersStatement := ⟨⟨_, rfl⟩, trivial, trivial⟩

/-- the labels of English binary results are known to the English Prolog printer: the table emitted
    from depccg's `_op_mapping` (Generated/Labels.lean) is the model's and has an entry for each -/
theorem en_labels_ok : EnLabelsOKStatement := fun s hs =>
  Generated.Labels.opMapping_eq ▸ List.all_eq_true.1 Generated.Labels.prolog_en_covers s hs

/-- the symbols of Japanese results are known to the Japanese Prolog printer, by `_ja_combinators` likewise -/
theorem ja_symbols_ok : JaSymbolsOKStatement := fun y hy =>
  Generated.Labels.jaCombinators_eq ▸ List.all_eq_true.1 Generated.Labels.prolog_ja_covers y hy

section examples

example : autoOf placeholder = .ok (lit "(<L NP POS POS FAILED NP>)") := by decide_lit
example : autoExtOf placeholder = .ok (lit "(<L NP FAILED XX XX XX XX NP>)") := by decide_lit
example : conllOf placeholder = .ok (lit "1\tFAILED\t_\t_\t_\t_\t0\tNP\t_\t(<L NP _ _ FAILED NP>)") := by
  decide_lit
example : ptbOf placeholder = .ok (lit "(ROOT (NP FAILED))") := by decide_lit
example : jaOf placeholder = .ok (lit "{NP FAILED/FAILED/_/_}") := by decide_lit
example : derivOf placeholder = .ok (lit "   NP\n FAILED\n") := by decide +kernel

example : prologEn [[placeholder]] = .ok (lit
    (":- op(601, xfx, (/)).\n:- op(601, xfx, (\\)).\n:- multifile ccg/2, id/2.\n:- discontiguous ccg/2, id/2.\n\n" ++
     "ccg(1,\n t(np, 'FAILED', 'XX', 'XX', 'XX', 'XX')).\n\n")) := by
  unfold prologEn prologHeader; decide_lit

example : prologJa [[placeholder]] = .ok (lit
    (":- op(601, xfx, (/)).\n:- op(601, xfx, (\\)).\n:- multifile ccg/2, id/2.\n:- discontiguous ccg/2, id/2.\n\n" ++
     "ccg(1,\n t(np, 'FAILED', '*', '*', '*', '*')).\n\n")) := by
  unfold prologJa prologHeader; decide_lit

example : ∃ s, derivOf placeholder = .ok s := (text_render_total placeholder placeholder_renders.1).2.2.2.2.2
example : ∃ ss, Xml.jiggOf true [[placeholder]] = .ok ss :=
  jigg_render_total true [[placeholder]] (by decide)

private def cNP : Cat := .atom (lit "NP") (.un none)
private def cS : Cat := .atom (lit "S") (.un (some (lit "dcl")))
private def cVP : Cat := .fn cS cBSlash cNP

/-- what the parser builds from `NP` "it" and `S[dcl]\NP` "runs": the English grammar's result -/
private def exTree : Tree :=
  .bin cS (lit "ba") (lit "<") true
    (.leaf cNP (Token.ofWord (lit "it")) (lit "lex") (lit "<lex>"))
    (.leaf cVP (Token.ofWord (lit "runs")) (lit "lex") (lit "<lex>"))

example : En.applyBinary none cNP cVP = .ok [⟨cS, lit "ba", lit "<", true⟩] := by decide +kernel

private theorem exOK : AllToks HasWord exTree ∧ EnPrologOK exTree :=
  ⟨⟨⟨_, rfl⟩, ⟨_, rfl⟩⟩, by decide, by decide, trivial, trivial⟩

/-- a batch of one parsed and one failed sentence renders as one Prolog document -/
example : ∃ s, prologEn [[exTree], [placeholder]] = .ok s := by
  apply prolog_en_total
  intro trees ht t htt
  simp only [List.mem_cons, List.not_mem_nil, or_false] at ht
  rcases ht with rfl | rfl
  · simp only [List.mem_cons, List.not_mem_nil, or_false] at htt; subst htt; exact exOK
  · simp only [List.mem_cons, List.not_mem_nil, or_false] at htt; subst htt
    exact ⟨placeholder_renders.1, placeholder_renders.2.1⟩

example : prologEn [[exTree], [placeholder]] = .ok (lit
    (":- op(601, xfx, (/)).\n:- op(601, xfx, (\\)).\n:- multifile ccg/2, id/2.\n:- discontiguous ccg/2, id/2.\n\n" ++
     "ccg(1,\n ba(s:dcl,\n  t(np, 'it', 'XX', 'XX', 'XX', 'XX'),\n  t((s:dcl\\np), 'runs', 'XX', 'XX', 'XX', 'XX'))).\n\n" ++
     "ccg(2,\n t(np, 'FAILED', 'XX', 'XX', 'XX', 'XX')).\n\n")) := by
  unfold prologEn prologHeader; decide_lit

example : ∃ s, toStringLines autoOf false [[(exTree, lit "-0.5")], [(placeholder, lit "0.0")]] = .ok s := by
  apply batch_total
  intro trees ht p hp
  simp only [List.mem_cons, List.not_mem_nil, or_false] at ht
  rcases ht with rfl | rfl <;>
    (simp only [List.mem_cons, List.not_mem_nil, or_false] at hp; subst hp)
  · exact (text_render_total exTree exOK.1).1
  · exact (text_render_total placeholder placeholder_renders.1).1

example : toStringLines autoOf false [[(exTree, lit "-0.5")], [(placeholder, lit "0.0")]] = .ok (lit
    ("ID=1, log probability=-0.5\n(<T S[dcl] 0 2> (<L NP XX XX it NP>) (<L S[dcl]\\NP XX XX runs S[dcl]\\NP>) )\n" ++
     "ID=2, log probability=0.0\n(<L NP POS POS FAILED NP>)\n")) := by decide_lit

/-! the hypotheses are needed -/

/-- a token without a word: `KeyError`, shown for `auto` -/
example : autoOf (.leaf cNP [] (lit "lex") (lit "<lex>")) = .error .keyError := by decide

example : Xml.jiggOf false [[]] = .error .indexError := rfl

/-- an unknown label fails in the English Prolog printer, and `conj` needs a functor category -/
example : prologEnRec (.bin cNP (lit "unk") (lit "<unk>") true placeholder placeholder) 1 = .error .keyError := by
  decide +kernel
example : prologEnRec (.bin cNP (lit "conj") (lit "<Φ>") true placeholder placeholder) 1 = .error .attributeError := by
  decide +kernel

end examples

end Depccg.C19
