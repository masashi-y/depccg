/-
  C15 / C07 for the two XML formats at the level of the printed characters: the theorems, and the
  reader evaluated on texts the printer never emits.
-/
import Depccg.Proofs.C15TextLemmas
import Depccg.Proofs.Lit

namespace Depccg.C15Text
open Depccg Str Xml

theorem xml_parse_render : XmlParseRenderStatement := fun e ind he =>
  List.append_nil (e.render ind) ▸ xt_parse_render e ind he (ws := []) rfl

theorem xml_render_injective : XmlRenderInjectiveStatement := fun a b ha hb h => by
  have h1 := xml_parse_render a 0 ha
  rw [h, xml_parse_render b 0 hb] at h1
  exact (Option.some.inj h1).symm

theorem esc_attr_roundtrip : EscAttrRoundtripStatement := xt_unesc_esc

theorem esc_attr_safe : EscAttrSafeStatement := xt_esc_safe

theorem xml_text_decode : XmlTextDecodeStatement := fun batch text hk h =>
  List.append_nil text ▸ xt_xml_decode batch text hk h [] rfl

theorem jigg_text_decode : JiggTextDecodeStatement := fun u batch ss text hk hj h =>
  List.append_nil text ▸ xt_jigg_decode u batch ss text hk hj h [] rfl

theorem xml_text_total : XmlTextTotalStatement := fun _ =>
  ⟨fun ⟨_, h⟩ => (docText_ok_iff.1 h).1, fun h => ⟨_, docText_ok_iff.2 ⟨h, rfl⟩⟩⟩

theorem xml_text_injective : XmlTextInjectiveStatement := fun a b text ha hb h1 h2 => by
  have e := xml_text_decode a text ha h1
  rw [xml_text_decode b text hb h2] at e
  exact (Option.some.inj e).symm

/-- a hand-written text the printer never emits (single quotes, `&apos;`, decimal and hexadecimal
    references, carriage returns, tabs, blanks around `=` and before `>`, an explicit end tag for an
    element without children) is read, and printed again in the printer's layout; the renderings are compared
    because `Elem` has no `DecidableEq` -/
example :
    (Read.parseXml (lit "\r\n <candc >\n\t<ccg sentence = '1'\tid=\"1\">\r\n" ++
        lit "<lf start='0' word='It&apos;s &#60;" ++ lit "&#x3c;&#x3C;&gt; \"q\"' cat=\"NP\"/>" ++
        lit "<lf\nstart=\"1\" word=\"a\tb\" cat='S\\NP' ></lf >\n" ++
        lit "</ccg  >\n\n</candc\n>\n\n")).map (fun e => e.render 0) =
      some (lit "<candc>\n" ++
        lit "  <ccg sentence=\"1\" id=\"1\">\n" ++
        lit "    <lf start=\"0\" word=\"It's &lt;&lt;&lt;&gt; " ++ lit "&quot;q&quot;\" cat=\"NP\"/>\n" ++
        lit "    <lf start=\"1\" word=\"a b\" cat=\"S\\NP\"/>\n" ++
        lit "  </ccg>\n" ++
        lit "</candc>\n") := by
  decide_lit

/-- a text without any white space, as `<ccg>` records -/
example :
    (Read.readXmlText (lit "<candc><ccg sentence='12' id='3'>" ++ lit "<rule type='lex' cat='NP'>" ++
        lit "<lf start='0' span='1' cat='N' word='R&amp;D'/>" ++ lit "</rule></ccg></candc>")).map
        (fun l => l.map fun c => (c.sentence, c.id, c.tree)) =
      some [(12, 3, .rule1 [(lit "type", lit "lex"), (lit "cat", lit "NP")]
        (.lf [(lit "start", lit "0"), (lit "span", lit "1"), (lit "cat", lit "N"), (lit "word", lit "R&D")]))] := by
  decide_lit

/-- malformed texts are rejected: text content, a mismatched end tag, two roots, an unknown entity, a
    raw `<` in a value, attributes that are not separated, an unterminated element, a reference to a
    code point that is no XML character, a reference without digits, `/ >` -/
example :
    [lit "<a>t</a>", lit "<a></b>", lit "<a/><b/>", lit "<a x=\"&foo;\"/>", lit "<a x=\"<\"/>",
      lit "<a x=\"1\"y=\"2\"/>", lit "<a><b/>", lit "<a x=\"&#0;\"/>", lit "<a x=\"&#x;\"/>", lit "<a/ >"].map
        (fun s => (Read.parseXml s).isSome) = List.replicate 10 false := by
  decide_lit

/-- the printer on a tree whose word needs escaping: the text, to the character ... -/
example :
    xmlText [[.un (.atom (lit "NP") (.un none)) (lit "lex") (lit "<un>")
        (.leaf (.atom (lit "N") (.un none)) [(lit "word", lit "R&D <\"x\">\t'"), (lit "pos", [])] (lit "lex") (lit "<lex>"))]] =
      .ok (lit "<candc>\n" ++
        lit "  <ccg sentence=\"1\" id=\"1\">\n" ++
        lit "    <rule type=\"lex\" cat=\"NP\">\n" ++
        lit "      <lf start=\"0\" span=\"1\" cat=\"N\" " ++ lit "word=\"R&amp;D &lt;&quot;x&quot;&gt;&#9;'\" pos=\"\"/>\n" ++
        lit "    </rule>\n" ++
        lit "  </ccg>\n" ++
        lit "</candc>\n") := by
  decide_lit

/-- ... and the records read from it -/
example :
    (Read.readXmlText (lit "<candc>\n" ++
        lit "  <ccg sentence=\"1\" id=\"1\">\n" ++
        lit "    <rule type=\"lex\" cat=\"NP\">\n" ++
        lit "      <lf start=\"0\" span=\"1\" cat=\"N\" " ++ lit "word=\"R&amp;D &lt;&quot;x&quot;&gt;&#9;'\" pos=\"\"/>\n" ++
        lit "    </rule>\n" ++
        lit "  </ccg>\n" ++
        lit "</candc>\n")).map (fun l => l.map fun c => (c.sentence, c.id, c.tree)) =
      some [(1, 1, .rule1 [(lit "type", lit "lex"), (lit "cat", lit "NP")]
        (.lf [(lit "start", lit "0"), (lit "span", lit "1"), (lit "cat", lit "N"), (lit "word", lit "R&D <\"x\">\t'"),
              (lit "pos", [])]))] := by
  decide_lit

-- the `Decidable` instance of the three equations is synthesised over the decoded text of the document, a term
-- beyond the default bound on the size of an instance problem
set_option synthInstance.maxSize 2048 in
/-- a Jigg text written by hand: the tokens, the attributes of a `<ccg>` with a span and of one without,
    and the spans -/
example :
    let r := Read.readJiggText (lit "<root><document><sentences>\n" ++
      lit "<sentence><tokens>" ++ lit "<token surf='a' id='s0_0'/></tokens>\n" ++
      lit "<ccg id='s0_ccg0' root='s0_sp0' score='-1.5'>" ++ lit "<span id='s0_sp0' terminal='s0_0'/></ccg>" ++
      lit "<ccg id='x'/></sentence>\n" ++ lit "</sentences></document></root>")
    r.map (fun l => l.map fun s => s.tokens) = some [[[(lit "surf", lit "a"), (lit "id", lit "s0_0")]]] ∧
    r.map (fun l => l.map fun s => s.ccgs.map (·.attrs)) =
      some [[[(lit "id", lit "s0_ccg0"), (lit "root", lit "s0_sp0"), (lit "score", lit "-1.5")], [(lit "id", lit "x")]]] ∧
    r.map (fun l => l.map fun s => s.ccgs.map (·.spans)) =
      some [[[[(lit "id", lit "s0_sp0"), (lit "terminal", lit "s0_0")]], []]] := by
  dsimp only
  decide_lit

end Depccg.C15Text
