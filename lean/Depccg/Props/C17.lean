/-
  C17 as the checks load it: the theorems are in `C17Thms.lean`; this module adds `Generated/All`, the
  shipped tables checked by evaluation with `okStr` and `dictWithin` (they import `C17Defs` only),
  of which `wfB_sound` and `dictWithin_sound` say what a passed check means.
-/
import Depccg.Props.C17Defs
import Depccg.Props.C17Thms
import Depccg.Generated.All
