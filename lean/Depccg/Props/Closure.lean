/-
  Well-formedness is preserved by the grammars ("type preservation"): `C05.WF` is one of the
  classes of categories of Depccg/Proofs/RuleClosure.lean.
-/
import Depccg.Props.ClosureDefs
import Depccg.Proofs.ClosureLemmas

namespace Depccg.Closure
open Depccg C05 TextProps

/-- English binary rules: results on well-formed categories are well-formed -/
theorem en_binary_closed : EnBinaryClosedStatement :=
  fun _ _ _ _ hx hy h => en_applyBinary_closed wf_iff wf_ruleClosed hx hy h

/-- Japanese binary rules: results on well-formed categories are well-formed -/
theorem ja_binary_closed : JaBinaryClosedStatement :=
  fun _ _ _ _ hx hy h => ja_applyBinary_closed wf_iff wf_ruleClosed.toRuleClosed hx hy h

/-- English unary rules return targets of the (well-formed) table -/
theorem en_unary_closed : EnUnaryClosedStatement :=
  fun _ _ ht => en_applyUnary_closed ht

/-- Japanese unary rules return targets of the (well-formed) table -/
theorem ja_unary_closed : JaUnaryClosedStatement :=
  fun _ _ _ ht h => ja_applyUnary_closed ht h

theorem licensed_tree_wf : LicensedTreeWFStatement :=
  fun _ _ hG ht hl => licensed_allCats (P := WF) hG ht hl

theorem shipped_closed : ShippedClosedStatement :=
  fun seen _ ht => ⟨enGrammar_closed wf_iff seen wf_ruleClosed ht,
    jaGrammar_closed wf_iff seen wf_ruleClosed.toRuleClosed ht⟩

/-! ### non-vacuity: a concrete English pair with a variable feature -/

/-- `S[X]/(S[X]\NP)` -/
def exX : Cat :=
  .fn (.atom (Str.lit "S") (.un (some (Str.lit "X")))) Str.cSlash
    (.fn (.atom (Str.lit "S") (.un (some (Str.lit "X")))) Str.cBSlash (.atom (Str.lit "NP") (.un none)))

/-- `S[dcl]\NP` -/
def exY : Cat :=
  .fn (.atom (Str.lit "S") (.un (some (Str.lit "dcl")))) Str.cBSlash (.atom (Str.lit "NP") (.un none))

/-- `S[dcl]` : the variable feature `[X]` is instantiated by `[dcl]` -/
def exR : Cat := .atom (Str.lit "S") (.un (some (Str.lit "dcl")))

theorem exX_wf : WF exX := C17.wfB_sound_aux _ (by decide)
theorem exY_wf : WF exY := C17.wfB_sound_aux _ (by decide)

private theorem exX_exY_rules :
    En.applyBinary none exX exY = .ok [⟨exR, Str.lit "fa", Str.lit ">", true⟩] := by
  decide

/-- the pair has exactly one result, forward application to `S[dcl]` … -/
example : En.applyBinary none exX exY = .ok [⟨exR, Str.lit "fa", Str.lit ">", true⟩] :=
  exX_exY_rules

/-- … which is well-formed by the theorem … -/
example : ∀ r ∈ [(⟨exR, Str.lit "fa", Str.lit ">", true⟩ : RuleRes)], WF r.cat :=
  en_binary_closed none exX exY _ exX_wf exY_wf exX_exY_rules

/-- … and by direct evaluation -/
example : C17.wfB exR = true := by decide

/-! ### non-vacuity: a concrete Japanese pair with a variable value -/

/-- `T[case=X1,mod=nm,fin=t]/NP[case=X1,mod=nm,fin=t]` -/
def jaX : Cat :=
  .fn (Ja.triCat "T" "case" "X1" "mod" "nm" "fin" "t") Str.cSlash
    (Ja.triCat "NP" "case" "X1" "mod" "nm" "fin" "t")

/-- `NP[case=ga,mod=nm,fin=t]` -/
def jaY : Cat := Ja.triCat "NP" "case" "ga" "mod" "nm" "fin" "t"

/-- `T[case=ga,mod=nm,fin=t]` : the feature with the variable value `X1` is instantiated -/
def jaR : Cat := Ja.triCat "T" "case" "ga" "mod" "nm" "fin" "t"

theorem jaX_wf : WF jaX := C17.wfB_sound_aux _ (by decide)
theorem jaY_wf : WF jaY := C17.wfB_sound_aux _ (by decide)

private theorem jaX_jaY_rules :
    Ja.applyBinary none jaX jaY = .ok [⟨jaR, Str.lit "fa", Str.lit ">", false⟩] := by
  decide

example : Ja.applyBinary none jaX jaY = .ok [⟨jaR, Str.lit "fa", Str.lit ">", false⟩] :=
  jaX_jaY_rules

example : ∀ r ∈ [(⟨jaR, Str.lit "fa", Str.lit ">", false⟩ : RuleRes)], WF r.cat :=
  ja_binary_closed none jaX jaY _ jaX_wf jaY_wf jaX_jaY_rules

example : C17.wfB jaR = true := by decide

end Depccg.Closure
