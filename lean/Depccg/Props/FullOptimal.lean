/-
  C01 / C10 at full strength for the lazy run (`Depccg.Lazy.runL`, the model of the real call):
  optimality, failure and n-best against ALL derivations the rule functions license (stated over
  categories, `FullOptimalDefs.lean`), not only against those licensed by the part of the grammar
  the search happened to cache. All three statements are proved as stated.
-/
import Depccg.Props.FullOptimalDefs
import Depccg.Proofs.FullOptimalLemmas

namespace Depccg.FullOptimal
open Depccg Search SearchProps GlueTree GlueRun Lazy LazyProps GlueRunProps

theorem lazy_optimal_full : LazyOptimalFullStatement := by
  intro G categories roots calls cfg x hnd hlex hu s gstH hs hpen h1 t rest hres cd hcd
  obtain ⟨U, d, heq, hroot, hm⟩ := fo_reduce G categories roots calls cfg x hnd hlex cd hcd
  rw [heq] at hres
  rw [fo_match_score s cfg hm]
  exact run_first_parse_optimal (grammarN G U) s cfg hs hpen (fo_head_uniform hu U) h1 t rest hres d hroot

theorem lazy_failure_full : LazyFailureFullStatement := by
  intro G categories roots calls cfg x hnd hlex hu s gstH hs hpen h1 hres hsteps ⟨cd, hcd⟩
  obtain ⟨U, d, heq, hroot, -⟩ := fo_reduce G categories roots calls cfg x hnd hlex cd hcd
  rw [heq] at hres hsteps
  exact run_failure_only_if_none (grammarN G U) s cfg hs hpen (fo_head_uniform hu U) h1 hres hsteps ⟨d, hroot⟩

theorem lazy_nbest_full : LazyNBestFullStatement := by
  intro G categories roots calls cfg x hnd hlex s gstH hs hpen hn hsteps res cd hcd
  obtain ⟨U, d, heq, hroot, hm⟩ := fo_reduce G categories roots calls cfg x hnd hlex cd hcd
  show (∀ r ∈ (runL G gstH s cfg).1.results, _) ∨ (∃ r ∈ (runL G gstH s cfg).1.results, _)
  rw [heq] at hsteps ⊢
  obtain ⟨htop, -, -⟩ := run_nbest_topk (grammarN G U) s cfg hs hpen hn hsteps
  rw [fo_match_score s cfg hm]
  by_cases hmem : d ∈ (run (grammarN G U) s cfg).results.map (·.d)
  · obtain ⟨r, hr, hrd⟩ := List.mem_map.1 hmem
    refine Or.inr ⟨r, hr, ?_, ?_⟩
    · rw [run_score_accounting (grammarN G U) s cfg r hr, hrd]
    · rw [hrd]
      exact (fo_match_skel s hm).leaves
  · exact Or.inl (htop d hroot hmem)

end Depccg.FullOptimal
