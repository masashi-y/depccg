/-
  From the id-level search to the trees the caller receives (C02 / C12 / C01 end to end).
-/
import Depccg.Props.EndToEndDefs
import Depccg.Props.C12Glue
import Depccg.Props.SearchBasics
import Depccg.Props.SearchOptimal
import Depccg.Props.C03
import Depccg.Props.C04
import Depccg.Proofs.Lit

namespace Depccg.EndToEnd
open Depccg Search SearchProps GlueTree

theorem e2e_filterMap_range (tokens : List Token) :
    (List.range tokens.length).filterMap (fun i => tokens[i]?) = tokens := by
  induction tokens with
  | nil => simp
  | cons a l ih =>
    rw [List.length_cons, List.range_succ_eq_map, List.filterMap_cons]
    simp only [List.getElem?_cons_zero, List.filterMap_map]
    congr 1

/-- a tree that mirrors a derivation over a cache representing the rule functions is licensed by
    them: each node's entry is the result at its rule id for the children's categories -/
theorem mirrors_licensed {G : CatGrammar} {T : Tables} {tokens : List Token} {d : Deriv} {t : Tree}
    (hrep : Represents G T) (hm : C12.Mirrors T tokens d t) :
    TreeLicensed G t ∧ T.cats (dcat d) = some t.cat ∧
      t.tokens = (leafToks d).filterMap (fun i => tokens[i]?) := by
  induction hm with
  | leaf tk c cat tok hcat htok =>
    refine ⟨TreeLicensed.leaf cat tok, hcat, ?_⟩
    simp only [leafToks, List.filterMap_cons, htok, List.filterMap_nil]
    rfl
  | un c rid d cat e child _ hcat he hec ih =>
    obtain ⟨ihl, ihc, iht⟩ := ih
    rw [dcatId_eq] at he
    obtain ⟨r, hr, hrc, hos, hoy⟩ := hrep.2 (dcat d) child.cat ihc rid e he
    rw [hec, hcat] at hrc
    exact ⟨TreeLicensed.un cat _ _ child r ihl (List.mem_of_getElem? hr) (Option.some.inj hrc).symm
      hos.symm hoy.symm, hcat, iht⟩
  | bin c rid hl l r cat e tl tr _ _ hcat he hec heh ihl ihr =>
    obtain ⟨il, ilc, ilt⟩ := ihl
    obtain ⟨ir, irc, irt⟩ := ihr
    rw [dcatId_eq, dcatId_eq] at he
    obtain ⟨res, hr, hrc, hhl, hos, hoy⟩ := hrep.1 (dcat l) (dcat r) tl.cat tr.cat ilc irc rid e he
    rw [hec, hcat] at hrc
    refine ⟨TreeLicensed.bin cat _ _ _ tl tr res il ir (List.mem_of_getElem? hr)
      (Option.some.inj hrc).symm hos.symm hoy.symm hhl.symm, hcat, ?_⟩
    simp only [leafToks, Tree.tokens, List.filterMap_append, ilt, irt]

theorem retrieved_tree_licensed : RetrievedTreeLicensedStatement :=
  fun _ _ _ _ _ _ _ hrep hl hret => mirrors_licensed hrep (C12.mirrors_of_retrieve hl hret)

theorem root_mirrors_licensed {G : CatGrammar} {T : Tables} {tokens : List Token} {s : Sent} {cfg : Cfg}
    {d : Deriv} {t : Tree} (hrep : Represents G T) (hlen : tokens.length = s.n)
    (hd : LicensedRoot (grammarOf T) s cfg d) (hm : C12.Mirrors T tokens d t) :
    TreeLicensed G t ∧ t.tokens = tokens ∧ (∃ rc ∈ s.roots, T.cats rc = some t.cat) := by
  obtain ⟨h1, h2, h3⟩ := mirrors_licensed hrep hm
  refine ⟨h1, ?_, ⟨dcat d, hd.2.2.2, h2⟩⟩
  rw [h3, hd.leafToks_eq, ← hlen]
  exact e2e_filterMap_range tokens

theorem root_tree_licensed {G : CatGrammar} {T : Tables} {tokens : List Token} {s : Sent} {cfg : Cfg}
    {d : Deriv} {t : Tree} (hrep : Represents G T) (hlen : tokens.length = s.n)
    (hd : LicensedRoot (grammarOf T) s cfg d) (hret : retrieve T tokens d = .ok t) :
    TreeLicensed G t ∧ t.tokens = tokens ∧ (∃ rc ∈ s.roots, T.cats rc = some t.cat) :=
  root_mirrors_licensed hrep hlen hd (C12.mirrors_of_retrieve hd.1 hret)

theorem run_trees_licensed : RunTreesLicensedStatement :=
  fun pick _ _ _ s cfg hp hrep hlen r hr _ hret =>
    root_tree_licensed hrep hlen (returned_valid pick _ s cfg hp r hr).1 hret

theorem e2e_bin_entry (G : CatGrammar) (T : Tables) (hk : RowsKnown T) (hrep : Represents G T)
    (x y : Nat) (r : Search.Rule) (hr : r ∈ (grammarOf T).bin x y) :
    ∃ cx cy, ∃ res ∈ G.bin cx cy, r.headLeft = res.headLeft := by
  obtain ⟨e, he, rfl⟩ := List.mem_map.1 hr
  obtain ⟨hx, hy⟩ := hk x y (List.ne_nil_of_mem he)
  obtain ⟨cx, hcx⟩ := Option.isSome_iff_exists.1 hx
  obtain ⟨cy, hcy⟩ := Option.isSome_iff_exists.1 hy
  obtain ⟨rid, hrid⟩ := List.getElem?_of_mem he
  obtain ⟨res, hres, -, hhl, -, -⟩ := hrep.1 x y cx cy hcx hcy rid e hrid
  exact ⟨cx, cy, res, List.mem_of_getElem? hres, hhl⟩

theorem head_of_represents {G : CatGrammar} {T : Tables} (hk : RowsKnown T) (hrep : Represents G T)
    {b : Bool} (h : ∀ cx cy, ∀ res ∈ G.bin cx cy, res.headLeft = b) :
    ∀ x y, ∀ r ∈ (grammarOf T).bin x y, r.headLeft = b := by
  intro x y r hr
  obtain ⟨cx, cy, res, hres, hhl⟩ := e2e_bin_entry G T hk hrep x y r hr
  rw [hhl]
  exact h cx cy res hres

theorem enGrammar_headLeft (seen : Option (List (Cat × Cat))) (table : List (Cat × List Cat)) :
    ∀ cx cy, ∀ res ∈ (enGrammar seen table).bin cx cy, res.headLeft = true := by
  intro cx cy res hres
  simp only [enGrammar] at hres
  split at hres
  · rename_i rs hrs
    exact C03.en_head_left seen cx cy rs hrs res hres
  · cases hres

theorem jaGrammar_headRight (seen : Option (List (Cat × Cat))) (table : List (Cat × List Cat)) :
    ∀ cx cy, ∀ res ∈ (jaGrammar seen table).bin cx cy, res.headLeft = false := by
  intro cx cy res hres
  simp only [jaGrammar] at hres
  split at hres
  · rename_i rs hrs
    exact C04.ja_head_right seen cx cy rs hrs res hres
  · cases hres

theorem shipped_head_uniform : ShippedHeadUniformStatement :=
  fun seen table _ hk =>
    ⟨fun hrep => Or.inl (head_of_represents hk hrep (enGrammar_headLeft seen table)),
      fun hrep => Or.inr (head_of_represents hk hrep (jaGrammar_headRight seen table))⟩

theorem shipped_first_parse_optimal : ShippedFirstParseOptimalStatement := by
  intro pick seen table T s cfg hp hs hpen hn hk hrep t rest hres d hd
  have hu : HeadUniform (grammarOf T) := by
    rcases hrep with h | h
    · exact (shipped_head_uniform seen table T hk).1 h
    · exact (shipped_head_uniform seen table T hk).2 h
  exact first_parse_optimal pick (grammarOf T) s cfg hp hs hpen hu hn t rest hres d hd

theorem e2e_dcatId_eq (d : Deriv) : dcatId d = dcat d := dcatId_eq d

section Examples

private def exNP : Cat := .atom (Str.lit "NP") (.un none)
private def exS : Cat := .atom (Str.lit "S") (.un none)
/-- `S\NP` -/
private def exVP : Cat := .fn exS Str.cBSlash exNP

/-- ids 0 1 2 = `NP`, `S\NP`, `S`; the one cache row is `En.applyBinary none NP (S\NP)` -/
private def exT : Tables :=
  { cats := fun i => if i = 0 then some exNP else if i = 1 then some exVP else if i = 2 then some exS else none,
    bin := fun x y => if x = 0 ∧ y = 1 then [⟨2, true, Str.lit "ba", Str.lit "<"⟩] else [],
    un := fun _ => [] }

private theorem e2e_ex_row : (enGrammar none []).bin exNP exVP = [⟨exS, Str.lit "ba", Str.lit "<", true⟩] := by
  unfold exNP exVP exS
  decide_lit

example : Represents (enGrammar none []) exT ∧ RowsKnown exT := by
  refine ⟨⟨?_, ?_⟩, ?_⟩
  · intro x y cx cy hx hy rid e he
    by_cases hxy : x = 0 ∧ y = 1
    · obtain ⟨rfl, rfl⟩ := hxy
      simp only [exT, if_true, Option.some.injEq, and_self] at hx hy he
      simp only [Nat.one_ne_zero, if_false] at hy
      injection hy with hy
      subst hx
      subst hy
      rw [e2e_ex_row]
      cases rid with
      | zero =>
        simp only [List.getElem?_cons_zero, Option.some.injEq] at he
        subst he
        exact ⟨_, rfl, rfl, rfl, rfl, rfl⟩
      | succ n => simp at he
    · simp [exT, hxy] at he
  · intro x cx hx rid e he
    simp [exT] at he
  · intro x y hne
    by_cases hxy : x = 0 ∧ y = 1
    · obtain ⟨rfl, rfl⟩ := hxy
      simp [exT]
    · simp [exT, hxy] at hne

end Examples

end Depccg.EndToEnd
