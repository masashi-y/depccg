/-
  C10  n-best results are the k best distinct derivations, best first.  For the search with any
  admissible agenda: `results_sorted`, `results_count` (SearchBasics.lean), `nbest_topk`
  (SearchNBest.lean); for the agenda of the real code SearchHeap.lean, for the lazy run and the trees
  LazySearch.lean, FullOptimal.lean, TreeLevel.lean (`lean/obligations.json` lists them all).
-/
import Depccg.Props.SearchBasics
import Depccg.Props.SearchNBest
