/-
  C06  Pattern matching of categories succeeds exactly when it should.
-/
import Depccg.Props.C06Defs
import Depccg.Proofs.C06Lemmas

namespace Depccg.C06
open Depccg Cat Str Unify

/-- before the matcher was used no binding can be read -/
theorem no_binding_before_call : NoBindingBeforeCallStatement := by
  intro px py k
  rfl

theorem call_fresh (px py x y : Cat) :
    (∃ σ, Obj.call (.fresh px py) x y = (.ok true, .succeeded σ)) ∨
    (∃ r, r ≠ .ok true ∧ Obj.call (.fresh px py) x y = (r, .failed)) := by
  cases h : unify px py x y with
  | error e => exact Or.inr ⟨.error e, ⟨fun h' => (by cases h'), (by simp only [Obj.call, h])⟩⟩
  | ok r =>
    cases r with
    | none => exact Or.inr ⟨.ok false, ⟨fun h' => (by cases h'), (by simp only [Obj.call, h])⟩⟩
    | some σ => exact Or.inl ⟨σ, (by simp only [Obj.call, h])⟩

theorem no_binding_after_failure : NoBindingAfterFailureStatement := by
  intro px py x y k h
  rcases call_fresh px py x y with ⟨σ, hσ⟩ | ⟨r, _, hr⟩
  · rw [hσ] at h; cases h
  · rw [hr]; rfl

theorem answers_once : AnswersOnceStatement := by
  intro px py x y x' y'
  rcases call_fresh px py x y with ⟨σ, hσ⟩ | ⟨r, _, hr⟩
  · simp only [hσ]
    exact ⟨rfl, fun _ => rfl⟩
  · simp only [hr]
    exact ⟨rfl, fun _ => rfl⟩

-- `Linear` and `VarsOK` in a form the kernel evaluates, for `grammar_patterns_ok` alone
instance (p : Cat) : Decidable (Linear p) := inferInstanceAs (Decidable (vars p).Nodup)

def varsOKb (p : Cat) : Bool :=
  (vars p).all fun v => match v with
    | [c] => !(decide (48 ≤ c) && decide (c ≤ 57))
    | _ => false

theorem varsOK_of_varsOKb {p : Cat} (h : varsOKb p = true) : VarsOK p := by
  intro v hv
  have := List.all_eq_true.1 h v hv
  match v, this with
  | [c], this =>
    refine ⟨c, rfl, ?_⟩
    simp at this
    omega

theorem grammar_patterns_ok : GrammarPatternsOKStatement := by
  have h : grammarPatterns.all (fun p =>
      decide (Linear p.1) && decide (Linear p.2) && varsOKb p.1 && varsOKb p.2) = true := by
    decide
  intro p hp
  have := List.all_eq_true.1 h p hp
  simp only [Bool.and_eq_true, decide_eq_true_eq] at this
  exact ⟨this.1.1.1, this.1.1.2, varsOK_of_varsOKb this.1.2, varsOK_of_varsOKb this.2⟩

theorem unify_total : UnifyTotalStatement := by
  intro px py x y sk
  rw [unify, unifyOrd_eq]
  split
  · obtain ⟨r, hr⟩ := agree_total (visitable_writes sk px py) []
    simp only [id, hr]
    cases r <;> exact ⟨_, rfl⟩
  · exact ⟨_, rfl⟩

theorem unknown_var : UnknownVarStatement := by
  intro px py x y σ v h hv
  obtain ⟨sx, sy⟩ := unify_shapes h
  rw [bindings_get_eq h]
  cases hc : Dict.get? (parts px py x y) v with
  | none => rfl
  | some c => exact absurd ((parts_isSome sx sy v).1 ⟨c, hc⟩) hv

theorem binding_spec : BindingSpecStatement := by
  intro px py x y σ lx ly h v hv
  obtain ⟨c, hl, hg, hm⟩ := binding_subst lx ly h hv
  exact ⟨c, _, hl, hg, instanceOf_subst hm c, xorEq_subst _ c⟩

theorem unify_ok_iff : UnifyOkIffStatement := by
  intro px py x y lx ly vx vy sk
  have fmx := matched_functional lx x
  -- the second scan meets no clash iff the shared variables stand for blind-equal parts
  have hnc : NoClash (setAll [] (matched px x)) (matched py y) ↔ SharedBlind px py x y :=
    ⟨fun h v tx ty hx hy => h v ty tx hy ((get?_setAll_nil fmx v tx).2 hx),
      fun h v t' c hv hc => h v c t' ((get?_setAll_nil fmx v c).1 hc) hv⟩
  -- and then the loop succeeds iff the features written under a common key are compatible
  have hag : SharedBlind px py x y →
      ((∀ v ∈ sharedOf px py x y, Passes (xfOf px x) (xfOf py y) v) ↔ FeatCompat px py x y) := by
    intro hb
    rw [passes_all_iff (visitable_writes sk px py), ← featCompat_iff vx vy hb]
    -- a key with a feature on both sides is a shared variable
    simp only [mem_sharedVars, get?_xfOf lx vx, get?_xfOf ly vy]
    exact ⟨fun h k f g hf hg => h k ⟨⟨f, hf⟩, g, hg⟩ f g hf hg, fun h k _ => h k⟩
  rw [Succeeds, unify, unifyOrd_succeeds_iff (ord := id) (fun l => .refl l), scan_true_iff lx,
    scan_true_iff ly]
  constructor
  · rintro ⟨⟨⟨s1, -⟩, s2, n2⟩, hp⟩
    exact ⟨s1, s2, hnc.1 n2, (hag (hnc.1 n2)).1 hp⟩
  · rintro ⟨s1, s2, hb, hc⟩
    exact ⟨⟨⟨s1, NoClash.nil _⟩, s2, hnc.2 hb⟩, (hag hb).2 hc⟩

/-! ### non-vacuity -/

section Examples
open Depccg.Pat

/-- `S[X]/NP[X]` -/
def exX : Cat := .fn (.atom (lit "S") (.un (some (lit "X")))) cSlash (.atom (lit "NP") (.un (some (lit "X"))))
/-- `NP[mod]` -/
def exY : Cat := .atom (lit "NP") (.un (some (lit "mod")))
/-- `N` -/
def exN : Cat := .atom (lit "N") (.un none)
/-- `S[dcl]/NP[a]` and `NP[b]` -/
def exA : Cat := .fn (.atom (lit "S") (.un (some (lit "dcl")))) cSlash (.atom (lit "NP") (.un (some (lit "a"))))
def exB : Cat := .atom (lit "NP") (.un (some (lit "b")))

theorem ex_hyps : Linear (fwd a b) ∧ Linear b ∧ VarsOK (fwd a b) ∧ VarsOK b :=
  grammar_patterns_ok (fwd a b, b) (by decide)

theorem ex_sameKind (x y : Cat) (h : (feats x ++ feats y).all (fun f => match f with | .un _ => true | _ => false) = true) :
    SameKind x y := by
  refine Or.inl fun f hf => ?_
  have := List.all_eq_true.1 h f hf
  cases f with
  | un v => exact ⟨v, rfl⟩
  | tri => cases this

/-- forward application of `S[X]/NP[X]` to `NP[mod]` matches: `a ↦ S[mod]`, `b ↦ NP[mod]` -/
example : ∃ σ, unify (fwd a b) b exX exY = .ok (some σ) ∧
    σ.get [97] = .ok (.atom (lit "S") (.un (some (lit "mod")))) ∧
    σ.get [98] = .ok exY ∧ σ.get [99] = .error .keyError :=
  ⟨_, rfl, by decide, by decide, by decide⟩

example : Succeeds (fwd a b) b exX exY := ⟨_, rfl⟩

/-- the characterisation applies to it (all hypotheses hold) and gives the declarative side -/
example : Shape (fwd a b) exX ∧ Shape b exY ∧ SharedBlind (fwd a b) b exX exY ∧
    FeatCompat (fwd a b) b exX exY :=
  (unify_ok_iff (fwd a b) b exX exY ex_hyps.1 ex_hyps.2.1 ex_hyps.2.2.1 ex_hyps.2.2.2
    (ex_sameKind _ _ (by decide))).1 ⟨_, rfl⟩

/-- and the binding specification applies to it -/
example : ∃ c b', lastMatched (fwd a b) b exX exY [97] = some c ∧
    c = .atom (lit "S") (.un (some (lit "X"))) ∧ b' = .atom (lit "S") (.un (some (lit "mod"))) ∧
    InstanceOf (feats exX ++ feats exY) b' c :=
  ⟨_, _, rfl, rfl, rfl, by simp [InstanceOf, Feat.isVariable, feats, exX, exY]⟩

/-- a failing match: `S[X]/NP[X]` does not apply to `N` (the shared variable `b` would stand
    for `NP[X]` and for `N`) -/
example : unify (fwd a b) b exX exN = .ok none := rfl

example : ¬ Succeeds (fwd a b) b exX exN := by
  rintro ⟨σ, h⟩
  rw [show unify (fwd a b) b exX exN = .ok none from rfl] at h
  cases h

example : ¬ SharedBlind (fwd a b) b exX exN := by
  intro h
  have := h [98] (.atom (lit "NP") (.un (some (lit "X")))) exN (by decide) (by decide)
  exact absurd this (by decide)

/-- a failing match because of incompatible features: `S[dcl]/NP[a]` with `NP[b]` -/
example : unify (fwd a b) b exA exB = .ok none := rfl

example : ¬ FeatCompat (fwd a b) b exA exB := by
  intro h
  have h' := (unify_ok_iff (fwd a b) b exA exB ex_hyps.1 ex_hyps.2.1 ex_hyps.2.2.1 ex_hyps.2.2.2
    (ex_sameKind _ _ (by decide))).2
      ⟨⟨by decide, trivial, trivial⟩, trivial, ?_, h⟩
  · obtain ⟨σ, hσ⟩ := h'
    rw [show unify (fwd a b) b exA exB = .ok none from rfl] at hσ
    cases hσ
  · intro v tx ty hx hy
    simp [matched, Pat.fwd, Pat.a, Pat.b, exA, exB] at hx hy
    rcases hx with ⟨rfl, rfl⟩ | ⟨rfl, rfl⟩
    · simp at hy
    · rw [hy.2]; decide

/-- without linearity the characterisation would fail: `a/a` on `S/NP` has the right shape and
    nothing shared with the second pattern, yet does not match -/
example : unify (fwd a a) b (.fn (.atom (lit "S") (.un none)) cSlash (.atom (lit "NP") (.un none))) exN
    = .ok none := rfl

/-- mixed feature systems make the call raise (why `SameKind` is assumed) -/
example : unify b b (.atom (lit "NP") (.tri [107] [118] [107] [118] [107] [118])) exY
    = .error .attributeError := rfl

end Examples

end Depccg.C06
