/-
  The callback side of `run` (`Depccg.GlueRun`) maintains what the end-to-end theorems assume.

  Proved as stated:     `init_inv : InitInvStatement`, `run_inv : RunInvStatement`.

  FALSE as stated (the invariant `Inv` of `GlueRunDefs` is too weak to be inductive / to determine
  an existing row), refuted and restated:

  * `StepInvStatement`: `Inv` says nothing about a unary row stored for an id that is not in the
    table yet (`RowsKnown` covers binary rows only). Counterexample (`step_inv_original_false`):
    table `[A]`, a unary row `[⟨0, …⟩]` stored under the unknown id 1, `G.un A = [B]`,
    `G.un B = []`; the call `.un 0` appends `B` as id 1, and now the old row for id 1 claims a
    result of `G.un B`, which has none: `Represents` breaks.
  * `RowIsResultListStatement`: `Inv` lets an existing row be shorter than the result list
    (`Represents` only maps row entries to results, not conversely). Counterexample
    (`row_is_result_list_original_false`): table `[A]`, an empty row stored for (0, 0),
    `G.bin A A = [A]`; `binCall` keeps the empty row, whose length is 0, not 1.

  Both are true for the invariant `Inv' = Inv ∧ RowsComplete` (every stored row belongs to ids of
  the table and has as many entries as the rule function's result list), which holds initially,
  is preserved by every call and hence holds in every reachable state:
  `init_inv'`, `step_inv_partial : StepInvStatement'`, `run_inv'`,
  `row_is_result_list_partial : RowIsResultListStatement'`, and `run_row_is_result_list`, the
  original conclusion for every state reachable from `init`. The proofs go through `CacheOK` of
  `Proofs/GlueRunLemmas.lean`, which says the same of a state (`inv'_iff_cacheOK`).
-/
import Depccg.Proofs.GlueRunLemmas

namespace Depccg.GlueRunProps
open Depccg GlueTree GlueRun

def RowsComplete (G : GlueRun.CatGrammar) (st : GSt) : Prop :=
  (∀ x y row, binRow st x y = some row →
    ∃ cx cy, st.cats[x]? = some cx ∧ st.cats[y]? = some cy ∧ row.length = (G.bin cx cy).length) ∧
  (∀ x row, unRow st x = some row →
    ∃ cx, st.cats[x]? = some cx ∧ row.length = (G.un cx).length)

def Inv' (G : GlueRun.CatGrammar) (st : GSt) : Prop := Inv G st ∧ RowsComplete G st

theorem Inv'.nodup {G : GlueRun.CatGrammar} {st : GSt} (h : Inv' G st) : st.cats.Nodup := h.1.1

theorem Inv'.represents {G : GlueRun.CatGrammar} {st : GSt} (h : Inv' G st) :
    EndToEnd.Represents (toE2E G) (tablesOf st) := h.1.2.1

theorem Inv'.rowsKnown {G : GlueRun.CatGrammar} {st : GSt} (h : Inv' G st) :
    EndToEnd.RowsKnown (tablesOf st) := h.1.2.2

/-- `StepInvStatement` with `Inv'` in place of `Inv` (hypothesis and conclusion) -/
def StepInvStatement' : Prop :=
  ∀ (G : GlueRun.CatGrammar) (st : GSt) (c : Call), Inv' G st →
    Inv' G (step G st c) ∧ st.cats <+: (step G st c).cats ∧
    (∀ x y row, binRow st x y = some row → binRow (step G st c) x y = some row) ∧
    (∀ x row, unRow st x = some row → unRow (step G st c) x = some row)

/-- `RowIsResultListStatement` with `Inv'` in place of `Inv` -/
def RowIsResultListStatement' : Prop :=
  ∀ (G : GlueRun.CatGrammar) (st : GSt) (x y : Nat) (cx cy : Cat), Inv' G st →
    st.cats[x]? = some cx → st.cats[y]? = some cy →
    ∃ row, binRow (binCall G st x y) x y = some row ∧ row.length = (G.bin cx cy).length ∧
      ∀ (rid : Nat) (r : RuleRes), (G.bin cx cy)[rid]? = some r →
        ∃ e : CacheEntry, row[rid]? = some e ∧ (binCall G st x y).cats[e.catId]? = some r.cat ∧
          e.headLeft = r.headLeft ∧ e.opString = r.opString ∧ e.opSymbol = r.opSymbol

/-- `Inv'` says of a state what `CacheOK` says: the end-to-end assumptions `Represents` and
    `RowsKnown` read the rows through `tablesOf`, `RowsComplete` adds the ids and the lengths -/
theorem inv'_iff_cacheOK {G : GlueRun.CatGrammar} {st : GSt} : Inv' G st ↔ CacheOK G st := by
  constructor
  · rintro ⟨⟨hnd, ⟨hrb, hru⟩, -⟩, hcb, hcu⟩
    refine ⟨hnd, fun {x y row} hrow => ?_, fun {x row} hrow => ?_⟩
    · obtain ⟨cx, cy, hx, hy, hl⟩ := hcb x y row hrow
      refine ⟨cx, cy, hx, hy, hl, fun {i r e} hr he => ?_⟩
      rw [← gr_tables_bin hrow] at he
      obtain ⟨r', hr', hc, hh, hlab⟩ := hrb x y cx cy hx hy i e he
      cases hr.symm.trans hr'
      exact ⟨hc, fun _ => hh, hlab⟩
    · obtain ⟨cx, hx, hl⟩ := hcu x row hrow
      refine ⟨cx, hx, hl, fun {i r e} hr he => ?_⟩
      rw [← gr_tables_un hrow] at he
      obtain ⟨r', hr', hc, hlab⟩ := hru x cx hx i e he
      cases hr.symm.trans hr'
      exact ⟨hc, nofun, hlab⟩
  · intro h
    refine ⟨⟨h.nodup, ⟨fun x y cx cy hx hy rid e he => ?_, fun x cx hx rid e he => ?_⟩,
      fun x y hne => ?_⟩, fun x y row hrow => ?_, fun x row hrow => ?_⟩
    -- `Represents` and `RowsKnown` read a row through `getD []`: one that shows an entry is stored
    · have hrow := gr_row_of_mem (List.mem_of_getElem? he)
      obtain ⟨r, hr, hc, hh, hlab⟩ := (h.bin_row hx hy hrow).of_entry he
      exact ⟨r, hr, hc, hh rfl, hlab⟩
    · have hrow := gr_row_of_mem (List.mem_of_getElem? he)
      obtain ⟨r, hr, hc, -, hlab⟩ := (h.un_row hx hrow).of_entry he
      exact ⟨r, hr, hc, hlab⟩
    · obtain ⟨cx, cy, hx, hy, -⟩ := h.bin (gr_row_of_ne_nil hne)
      exact ⟨congrArg Option.isSome hx, congrArg Option.isSome hy⟩
    · obtain ⟨cx, cy, hx, hy, hok⟩ := h.bin hrow
      exact ⟨cx, cy, hx, hy, hok.length⟩
    · obtain ⟨cx, hx, hok⟩ := h.un hrow
      exact ⟨cx, hx, hok.length⟩

theorem gr_inv_empty (G : GlueRun.CatGrammar) (cats : List Cat) (h : cats.Nodup) :
    Inv' G ⟨cats, [], []⟩ :=
  inv'_iff_cacheOK.2 ⟨h, fun hr => (nomatch hr), fun hr => (nomatch hr)⟩

theorem init_inv' (G : GlueRun.CatGrammar) (categories roots : List Cat) (h : categories.Nodup) :
    Inv' G (init categories roots) :=
  gr_inv_empty G _ (gr_addRoots_nodup roots h)

theorem init_inv : InitInvStatement := by
  intro G categories roots h
  exact ⟨(init_inv' G categories roots h).1, gr_addRoots_prefix roots categories,
    gr_addRoots_length roots categories, gr_addRoots_ids roots categories⟩

theorem step_inv_partial : StepInvStatement' := by
  intro G st c h
  -- the three conjuncts after the invariant are `Grows st (step G st c)` spelled out, and need no `h`
  exact ⟨inv'_iff_cacheOK.2 ((inv'_iff_cacheOK.1 h).step c), gr_step_grows G st c⟩

theorem gr_run_inv' (G : GlueRun.CatGrammar) (calls : List Call) : ∀ st : GSt, Inv' G st →
    Inv' G (calls.foldl (step G) st) ∧ st.cats <+: (calls.foldl (step G) st).cats :=
  fun st h => ⟨inv'_iff_cacheOK.2 ((inv'_iff_cacheOK.1 h).foldl calls), (gr_foldl_grows G calls st).1⟩

theorem run_inv' (G : GlueRun.CatGrammar) (categories roots : List Cat) (calls : List Call)
    (h : categories.Nodup) : Inv' G (calls.foldl (step G) (init categories roots)) :=
  (gr_run_inv' G calls _ (init_inv' G categories roots h)).1

theorem run_inv : RunInvStatement := by
  intro G categories roots calls h
  obtain ⟨h1, hp⟩ := gr_run_inv' G calls _ (init_inv' G categories roots h)
  exact ⟨h1.1, List.IsPrefix.trans (gr_addRoots_prefix roots categories) hp⟩

theorem row_is_result_list_partial : RowIsResultListStatement' := by
  intro G st x y cx cy h hx hy
  obtain ⟨row, hrow, hok⟩ := gr_binCall_row (inv'_iff_cacheOK.1 h) hx hy
  refine ⟨row, hrow, hok.length, fun rid r hr => ?_⟩
  obtain ⟨e, he, hc, hh, hlab⟩ := hok.of_res hr
  exact ⟨e, he, hc, hh rfl, hlab⟩

/-- in every state reachable from `init` the conclusion of `RowIsResultListStatement` holds -/
theorem run_row_is_result_list (G : GlueRun.CatGrammar) (categories roots : List Cat)
    (calls : List Call) (x y : Nat) (cx cy : Cat) (h : categories.Nodup) :
    let st := calls.foldl (step G) (init categories roots)
    st.cats[x]? = some cx → st.cats[y]? = some cy →
    ∃ row, binRow (binCall G st x y) x y = some row ∧ row.length = (G.bin cx cy).length ∧
      ∀ (rid : Nat) (r : RuleRes), (G.bin cx cy)[rid]? = some r →
        ∃ e : CacheEntry, row[rid]? = some e ∧ (binCall G st x y).cats[e.catId]? = some r.cat ∧
          e.headLeft = r.headLeft ∧ e.opString = r.opString ∧ e.opSymbol = r.opSymbol := by
  intro st hx hy
  exact row_is_result_list_partial G st x y cx cy (run_inv' G categories roots calls h) hx hy

namespace Counter

def A : Cat := .atom [65] (.un none)
def B : Cat := .atom [66] (.un none)

/-- `G.un A = [B]`, `G.un B = []`, no binary results -/
def G1 : GlueRun.CatGrammar :=
  { bin := fun _ _ => [],
    un := fun c => if c = A then [⟨B, [], [], true⟩] else [] }

/-- table `[A]`, and a unary row stored under the id 1, which the table does not have yet -/
def st1 : GSt := { cats := [A], bin := [], un := [(1, [⟨0, true, [], []⟩])] }

theorem inv_st1 : Inv G1 st1 := by
  refine ⟨by decide, ⟨?_, ?_⟩, ?_⟩
  · intro a b ca cb _ _ rid e he
    simp [tablesOf, binRow, st1] at he
  · intro a ca ha rid e he
    have ha' : [A][a]? = some ca := ha
    have h0 : a = 0 := by
      cases a with
      | zero => rfl
      | succ k => simp at ha'
    subst h0
    have : (tablesOf st1).un 0 = [] := by decide
    rw [this] at he
    simp at he
  · intro a b hne
    simp [tablesOf, binRow, st1] at hne

theorem not_inv_step_st1 : ¬ Inv G1 (step G1 st1 (.un 0)) := by
  intro h
  obtain ⟨_, ⟨_, hun⟩, _⟩ := h
  obtain ⟨r, hr, _⟩ := hun 1 B (by decide +kernel) 0 ⟨0, true, [], []⟩ (by decide +kernel)
  have hnil : (toE2E G1).un B = [] := by decide
  rw [hnil] at hr
  simp at hr

/-- `G.bin A A = [A]` -/
def G2 : GlueRun.CatGrammar :=
  { bin := fun _ _ => [⟨A, [], [], true⟩], un := fun _ => [] }

/-- table `[A]`, and an empty row stored for (0, 0) -/
def st2 : GSt := { cats := [A], bin := [((0, 0), [])], un := [] }

theorem bin_st2 (a b : Nat) : (tablesOf st2).bin a b = [] := by
  show (binRow st2 a b).getD [] = []
  unfold st2
  rw [gr_binRow_cons]
  split <;> rfl

theorem inv_st2 : Inv G2 st2 := by
  refine ⟨by decide, ⟨?_, ?_⟩, ?_⟩
  · intro a b ca cb _ _ rid e he
    rw [bin_st2] at he
    simp at he
  · intro a ca _ rid e he
    simp [tablesOf, unRow, st2] at he
  · intro a b hne
    exact absurd (bin_st2 a b) hne

end Counter

theorem step_inv_original_false : ¬ StepInvStatement := by
  intro h
  exact Counter.not_inv_step_st1 (h Counter.G1 Counter.st1 (.un 0) Counter.inv_st1).1

theorem row_is_result_list_original_false : ¬ RowIsResultListStatement := by
  intro h
  obtain ⟨row, hrow, hlen, _⟩ :=
    h Counter.G2 Counter.st2 0 0 Counter.A Counter.A Counter.inv_st2 (by decide) (by decide)
  have hr : binRow (binCall Counter.G2 Counter.st2 0 0) 0 0 = some [] := by decide
  rw [hr] at hrow
  cases hrow
  exact absurd hlen (by decide)

namespace Example

def NP : Cat := .atom (Str.lit "NP") (.un none)
def S : Cat := .atom (Str.lit "S") (.un none)
/-- `S\NP` -/
def SbNP : Cat := .fn S Str.cBSlash NP
/-- `S/(S\NP)` -/
def TR : Cat := .fn S Str.cSlash SbNP

/-- the English binary rules (no seen-rules filter) and the unary table `{NP: [S/(S\NP)]}` -/
def enG : GlueRun.CatGrammar :=
  { bin := fun x y => match En.applyBinary none x y with | .ok rs => rs | .error _ => [],
    un := fun x => En.applyUnary [(NP, [TR])] x }

/-- categories `NP` (id 0), `S\NP` (id 1), root `S`; the search asks for (0, 1), then for the
    unary row of 0, then for (0, 1) again -/
def final : GSt := [Call.bin 0 1, .un 0, .bin 0 1].foldl (step enG) (init [NP, SbNP] [S])

end Example

open Example in
/-- `run_inv` on the run above; by evaluation: the root `S` got id 2, the first call found
    `NP S\NP ⇒ S` by backward application (`ba`, `<`) and stored the row `[⟨2, …⟩]` under (0, 1),
    the unary call appended the type-raised category as id 3, the repeated call changed nothing -/
example :
    Inv enG final ∧ [NP, SbNP] <+: final.cats ∧
    (addRoots [NP, SbNP] [S]).2 = [2] ∧
    final.cats = [NP, SbNP, S, TR] ∧
    binRow final 0 1 = some [⟨2, true, Str.lit "ba", Str.lit "<"⟩] ∧
    unRow final 0 = some [⟨3, true, Str.lit "tr", Str.lit "<un>"⟩] ∧
    final.bin.length = 1 :=
  ⟨(run_inv enG [NP, SbNP] [S] [.bin 0 1, .un 0, .bin 0 1] (by decide)).1,
   (run_inv enG [NP, SbNP] [S] [.bin 0 1, .un 0, .bin 0 1] (by decide)).2,
   by decide +kernel, by decide +kernel, by decide +kernel, by decide +kernel, by decide +kernel⟩

end Depccg.GlueRunProps
