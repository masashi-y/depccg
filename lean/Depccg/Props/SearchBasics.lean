/-
  The basic search properties (C02 C09 C10 C01-observable C16): every statement of
  `SearchDefs.lean` that needs neither the optimality argument (`SearchOptimal.lean`) nor the n-best
  invariant (`SearchNBest.lean`), proved from the invariants of `Depccg/Proofs/SearchLemmas.lean`,
  plus a concrete instance showing the hypotheses are satisfiable.
-/
import Depccg.Props.SearchDefs
import Depccg.Proofs.SearchLemmas

namespace Depccg.SearchProps
open Depccg Search

theorem pickFirstMax_ok : PickOK Search.pickFirstMax :=
  ⟨rfl, popFirstMax_spec, fun _ _ => .refl _⟩

theorem mem_results {pick : Pick} {g : Grammar} {s : Sent} {cfg : Cfg} {r : Item}
    (h : r ∈ (runWith pick g s cfg).results) :
    r ∈ (loop pick g s cfg cfg.maxStep (init pick s cfg)).goal :=
  results_perm.mem_iff.1 h

theorem results_finOK {pick : Pick} {g : Grammar} {s : Sent} {cfg : Cfg} (hp : PickOK pick) {r : Item}
    (h : r ∈ (runWith pick g s cfg).results) : r.fin = true ∧ FinOK g s cfg r :=
  (StOK.final hp g s cfg).goal r (mem_results h)

/-! ### C02 -/

theorem returned_valid : ReturnedValidStatement := by
  intro pick g s cfg hp r hr
  obtain ⟨hf, hok⟩ := results_finOK hp hr
  exact ⟨hok.lic, hok.lic.leafToks_eq, hok.cat, hf⟩

theorem leaf_tags_admitted : LeafTagsAdmittedStatement :=
  fun _ _ _ _ h => h.leafCats_admitted

theorem no_unary_at_root : NoUnaryAtRootStatement := by
  intro g s cfg d hd hn c rid d' e
  subst e
  obtain ⟨hl, _, hlen, _⟩ := hd
  cases hl with
  | un _ _ _ _ _ hu =>
    simp only [dlen] at hlen
    omega

/-! ### C09 -/

theorem score_accounting : ScoreAccountingStatement := by
  intro pick g s cfg hp r hr
  exact (results_finOK hp hr).2.prio_eq

/-! ### C10 -/

theorem results_sorted : ResultsSortedStatement :=
  fun _ _ _ _ => List.pairwise_map.2 (sortDesc_sorted _)

theorem results_count : ResultsCountStatement :=
  fun pick g s cfg _ => results_length_le pick g s cfg

/-! ### C01 (observable half) -/

theorem inside_bounded : InsideBoundedStatement := by
  intro g s cfg d hs hp h
  have := slack_nonneg hs hp h
  simp only [slack, pre, inScore] at this
  omega

theorem pops_nonincreasing : PopsNonincreasingStatement := by
  intro pick g s cfg hp hs hpen
  have h := (PrioOK.final hp g hs hpen).chain
  show ((List.reverse _).map Item.prio).Pairwise (· ≥ ·)
  rw [List.map_reverse, List.pairwise_reverse]
  exact h

/-! ### C16 -/

theorem admitted_prefix : AdmittedPrefixStatement :=
  fun s cfg tok =>
    let ⟨k, hk, e, _⟩ := admitted_spec s cfg tok
    ⟨k, hk, e⟩

theorem admitted_subset_topk : AdmittedSubsetTopKStatement := by
  intro s cfg tok c hc
  obtain ⟨k, hk, e⟩ := admitted_prefix s cfg tok
  rw [e] at hc
  exact List.take_subset_take_left _ hk hc

theorem admitted_all_pass : AdmittedAllPassStatement := by
  intro s cfg tok i c hlen h
  obtain ⟨j, -, e, hall⟩ := admitted_spec s cfg tok
  rw [e, List.getElem?_take] at h
  split at h
  · rename_i hij
    have hi := (List.getElem?_eq_some_iff.1 h).1
    -- the one use of `hlen`: `hall` speaks of the entries the row has, and where the row ends before the
    -- candidates do (the empty row of `use_beta = false` above all) the loop admits on without one
    rw [List.getElem?_eq_getElem (by omega)]
    exact congrArg some (hall i hij _ (List.getElem?_eq_getElem (by omega)))
  · cases h

theorem filter_off : FilterOffStatement := by
  intro s cfg tok h
  simp only [admitted, topK, h, admitLoop_nil_passes]

theorem admitted_stops_at_failure : AdmittedStopsAtFailureStatement := by
  intro s cfg tok i h
  obtain ⟨j, -, e, hall⟩ := admitted_spec s cfg tok
  rw [e, List.length_take]
  apply Nat.le_of_not_lt
  intro hi
  cases hall i (by omega) false h

theorem candidates_sorted : CandidatesSortedStatement :=
  fun s tok => ⟨List.pairwise_map.2 sortCands_spec.2,
    List.range_eq_range' ▸ candidates_map_snd_perm s tok⟩

namespace Demo

/-- categories: 0 = NP, 1 = S\NP, 2 = S, 3 = N;  `N ⇒ NP` (unary), `NP S\NP ⇒ S` (head right) -/
def g : Grammar where
  bin := fun x y => if x = 0 ∧ y = 1 then [⟨2, false⟩] else []
  un := fun x => if x = 3 then [0] else []

def s : Sent where
  n := 2
  tags := [[1, -3, -5, 4], [-2, 6, -1, -4]]
  deps := [[-1, 0, 3], [5, 2, 0]]
  roots := [2]
  passes := [[], []]

def cfg : Cfg := { penalty := 1, pruning := 3, nbest := 2, maxStep := 100 }

theorem sentOK : SentOK s := ⟨rfl, rfl, by decide, by decide, by decide⟩
example : 0 ≤ cfg.penalty := by decide
example : PickOK pickFirstMax := pickFirstMax_ok

/-- the run returns both parses, best first: `N ⇒ NP` on the first word beats the plain `NP` -/
example : (run g s cfg).results.map (fun r => (r.d, r.prio)) =
    [(.bin 2 0 false (.un 0 0 (.leaf 0 3)) (.leaf 1 1), 17),
     (.bin 2 0 false (.leaf 0 0) (.leaf 1 1), 15)] := by decide +kernel

/-- eight items are popped: the two leaves `N`, `S\NP`, the unary `NP`, the first `S` and its final
    item, then the tagged `NP`, the second `S` and its final item -/
example : ((run g s cfg).popped.map Item.prio) = [18, 18, 17, 17, 17, 15, 15, 15] := by decide +kernel

example : (run g s cfg).steps = 8 := by decide +kernel

/-- 1-best: the search stops at the first final item -/
theorem run1_results : (run g s { cfg with nbest := 1 }).results.map (fun r => (r.d, r.prio)) =
    [(.bin 2 0 false (.un 0 0 (.leaf 0 3)) (.leaf 1 1), 17)] := by decide +kernel

example : (run g s { cfg with nbest := 1 }).results.map (fun r => (r.d, r.prio)) =
    [(.bin 2 0 false (.un 0 0 (.leaf 0 3)) (.leaf 1 1), 17)] := run1_results

/-- the general theorems apply to the run with any admissible agenda, e.g. `pickFirstMax` -/
example : ∀ r ∈ (runWith pickFirstMax g s cfg).results,
    LicensedRoot g s cfg r.d ∧ r.prio = modelScore s cfg r.d :=
  fun r hr => ⟨(returned_valid pickFirstMax g s cfg pickFirstMax_ok r hr).1,
    score_accounting pickFirstMax g s cfg pickFirstMax_ok r hr⟩

example : ((runWith pickFirstMax g s cfg).popped.map Item.prio).Pairwise (· ≥ ·) :=
  pops_nonincreasing pickFirstMax g s cfg pickFirstMax_ok sentOK (by decide)

end Demo

end Depccg.SearchProps
