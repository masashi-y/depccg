/-
  The lazily filled rule cache (`Depccg.Lazy`, the model of `depccg._parsing.run` as it really
  runs) against the search over a total id-level grammar.

  Proved as stated: `lazy_reachable`, `lazy_inv`, `lazy_trees_licensed`, `lazy_retrieve_total`,
  `too_long`, `batch_rejects_duplicates`; `LazyHistoryIndependentStatement` and
  `BatchEqMapSoloStatement` in `Props/LazyHistory.lean`, `ParsingRunEqMapSoloStatement` in
  `Props/TopLevel.lean`.

  FALSE as stated, refuted and restated (`LazyDefs2.lean`):

  * `LazyEqFinalStatement` (`lazy_eq_final_original_false`): table `[A]`, `A ⇒ B`, `B ⇒ A`, one
    word whose tag row has two columns, column 1 (no id yet) scoring best. The leaf tagged 1 is
    popped first: the callback for the unknown id 1 is a no-op, nothing is pushed. Then the leaf
    `A` is expanded: `B` becomes id 1. The lazy run ends after 3 pops. A later callback `.un 1`
    now stores the row of `B`; over the view of that cache the leaf tagged 1 has a unary result
    and the run takes 4 pops.
  * `LazyShippedOptimalStatement` (`lazy_shipped_optimal_original_false`): the same corner inside
    one sentence, with the English grammar. Table `[S/N, S]`, unary table `S/N ⇒ N`, `N ⇒ S/N`;
    two words with three tag columns. The best leaf of word 0 is tagged 2 while 2 is no id:
    no unary result. Expanding the leaf `S/N` of word 0 makes `N` id 2; the leaf tagged 2 of
    word 1 then stores the unary row of `N`. The lazy run returns `S/N N ⇒ S` with score -1; the
    final cache licenses `(N ⇒ S/N) N ⇒ S` over the two leaves tagged 2 with score 9.

  Both hold when every tag column is an id of the table (and `pick` is admissible):
  `lazy_eq_final_partial`, `lazy_shipped_optimal_partial`.

  In the code a callback for an id outside the table raises IndexError (`categories_[x_id]` in
  parsing.pyx, a RuntimeError out of `parse_sentence`); the model's `binCall` / `unCall` do nothing
  then (`gr_binCall_unknown`, `gr_unCall_unknown`), and both refutations live in that convention.
  With every tag column an id of the table no such call is made (`lz_step_valid`).
-/
import Depccg.Props.LazyDefs
import Depccg.Props.LazyDefs2
import Depccg.Proofs.LazySentenceLemmas
import Depccg.Props.EndToEnd
import Depccg.Props.SearchHeap

namespace Depccg.LazyProps
open Depccg Search SearchProps GlueTree GlueRun Lazy GlueRunProps

theorem lazy_eq_final_partial : LazyEqFinalStatement' := by
  intro pick G gst s cfg later hp hinv htags
  exact sameOutcome_iff.2 (lz_run_refines hp hinv htags (.view (gr_foldl_grows G later _)))

theorem lazy_reachable : LazyReachableStatement := by
  intro pick G gst s cfg
  exact lz_run_reach pick G gst s cfg

theorem lazy_inv : LazyInvStatement := by
  intro pick G gst s cfg hinv
  exact ⟨lz_run_inv pick s cfg hinv, lz_run_cats_prefix pick G gst s cfg⟩

theorem lazy_trees_licensed : LazyTreesLicensedStatement := by
  intro pick G gst s cfg tokens hp hinv hlen r hr t hret
  exact EndToEnd.root_tree_licensed (lz_run_inv pick s cfg hinv).represents hlen
    (lz_results_valid hp G gst s cfg r hr).1 hret

theorem lazy_retrieve_total : LazyRetrieveTotalStatement := by
  intro pick G gst s cfg tokens hp hinv hlen htags
  refine treesOf_total _ tokens _ fun r hres => ?_
  obtain ⟨⟨hlic, -⟩, -⟩ := lz_results_valid hp G gst s cfg r hres
  obtain ⟨t, ht, -⟩ := C12.labels_from_creator _ tokens s cfg r.d hlic
    (lz_licensed_covered (lz_run_inv pick s cfg hinv) hlen
      (lz_tags_mono htags (lz_run_cats_prefix pick G gst s cfg)) hlic)
  exact ⟨t, ht⟩

theorem lazy_shipped_optimal_partial : LazyShippedOptimalStatement' := by
  intro pick seen table en gst s cfg E G hp hs hpen hn hinv htags
  rw [lz_run_eq hp hinv htags]
  have hF := lz_run_inv pick s cfg hinv
  -- the English rules put the head on the left, the Japanese ones on the right, and the cache
  -- represents them
  have hu : HeadUniform (view (runLWith pick G gst s cfg).2) := by
    cases en
    · exact Or.inr (EndToEnd.head_of_represents hF.rowsKnown hF.represents
        (EndToEnd.jaGrammar_headRight seen table))
    · exact Or.inl (EndToEnd.head_of_represents hF.rowsKnown hF.represents
        (EndToEnd.enGrammar_headLeft seen table))
  exact first_parse_optimal pick _ s cfg hp hs hpen hu hn

theorem too_long : TooLongStatement := by
  intro pick G rootIds cfg m gst x h
  rw [sentenceL_eq, if_pos]
  exact decide_eq_true h

theorem batch_rejects_duplicates : BatchRejectsDuplicatesStatement := by
  intro G categories roots cfg maxLength doc h
  simp only [runBatch, runBatchWith, if_neg h]

namespace LzCounter

def A : Cat := .atom [65] (.un none)
def B : Cat := .atom [66] (.un none)

/-- `A ⇒ B`, `B ⇒ A` (unary), no binary results -/
def G3 : GlueRun.CatGrammar :=
  { bin := fun _ _ => [],
    un := fun c => if c = A then [⟨B, [], [], true⟩] else if c = B then [⟨A, [], [], true⟩] else [] }

/-- the table knows `A` only -/
def gst3 : GSt := { cats := [A], bin := [], un := [] }

/-- one word, two tag columns: column 1 is not (yet) an id of the table and scores best -/
def s3 : Sent := { n := 1, tags := [[0, 5]], deps := [[0, 0]], roots := [], passes := [] }

def cfg3 : Cfg := { penalty := 0, pruning := 2, nbest := 1, maxStep := 10 }

/-- the lazy run takes 3 pops, the run over the view of the cache after the later callback
    `.un 1` takes 4 -/
theorem steps3 :
    (runLWith pickFirstMax G3 gst3 s3 cfg3).1.steps = 3 ∧
    (runWith pickFirstMax
      (view ([Call.un 1].foldl (GlueRun.step G3) (runLWith pickFirstMax G3 gst3 s3 cfg3).2)) s3 cfg3).steps = 4 := by
  decide +kernel

/-- the counterexample satisfies everything but the hypothesis on the tag columns -/
example : PickOK pickFirstMax ∧ Inv' G3 gst3 :=
  ⟨pickFirstMax_ok, gr_inv_empty G3 [A] (by decide)⟩

def cN : Cat := .atom (Str.lit "N") (.un none)
def cS : Cat := .atom (Str.lit "S") (.un none)
/-- `S/N` -/
def cSN : Cat := .fn cS Str.cSlash cN

/-- unary rules `S/N ⇒ N`, `N ⇒ S/N` -/
def table6 : List (Cat × List Cat) := [(cSN, [cN]), (cN, [cSN])]

/-- the only seen pair is `(S/N, N)` -/
def seen6 : Option (List (Cat × Cat)) := some [(cSN, cN)]

/-- `if true then … else …` is the shape `LazyShippedOptimalStatement` gives `G` for `en = true` -/
def G6 : GlueRun.CatGrammar :=
  { bin := (if true then EndToEnd.enGrammar seen6 table6 else EndToEnd.jaGrammar seen6 table6).bin,
    un := (if true then EndToEnd.enGrammar seen6 table6 else EndToEnd.jaGrammar seen6 table6).un }

/-- ids 0 = `S/N`, 1 = `S`; `N` has no id yet -/
def gst6 : GSt := { cats := [cSN, cS], bin := [], un := [] }

/-- two words, three tag columns; column 2 is no id of the table at the start -/
def s6 : Sent :=
  { n := 2, tags := [[0, -100, 10], [-100, 20, -1]], deps := [[0, 0, 0], [0, 0, 0]], roots := [1],
    passes := [] }

def cfg6 : Cfg := { penalty := 0, pruning := 3, nbest := 1, maxStep := 100 }

/-- `(N ⇒ S/N) N ⇒ S` over the two leaves tagged 2 -/
def d6 : Deriv := .bin 1 0 true (.un 0 0 (.leaf 0 2)) (.leaf 1 2)

theorem sentOK6 : SentOK s6 := by simp [SentOK, s6]

theorem inv6 : Inv' G6 gst6 := gr_inv_empty G6 [cSN, cS] (by decide)

theorem results6 : (runLWith pickFirstMax G6 gst6 s6 cfg6).1.results.map Item.prio = [-1] := by
  decide +kernel

theorem licensed6 : LicensedRoot (view (runLWith pickFirstMax G6 gst6 s6 cfg6).2) s6 cfg6 d6 := by
  refine ⟨?_, rfl, rfl, by decide⟩
  refine Licensed.bin 1 0 true _ _ ?_ ?_ rfl (by decide +kernel)
  · refine Licensed.un 0 0 _ ?_ (by decide +kernel) (by decide)
    exact Licensed.leaf 0 2 10 (by decide) (by decide +kernel)
  · exact Licensed.leaf 1 2 (-1) (by decide) (by decide +kernel)

theorem score6 : modelScore s6 cfg6 d6 = 9 := by decide +kernel

end LzCounter

open LzCounter in
theorem lazy_eq_final_original_false : ¬ LazyEqFinalStatement := by
  intro h
  have h1 := (h pickFirstMax G3 gst3 s3 cfg3 [.un 1]).2.2.1
  rw [steps3.1, steps3.2] at h1
  exact absurd h1 (by decide)

open LzCounter in
theorem lazy_shipped_optimal_original_false : ¬ LazyShippedOptimalStatement := by
  intro h
  have h1 := h pickFirstMax seen6 table6 true gst6 s6 cfg6 pickFirstMax_ok sentOK6 (by decide) rfl inv6
  have hres := results6
  cases hr : (runLWith pickFirstMax G6 gst6 s6 cfg6).1.results with
  | nil => rw [hr] at hres; cases hres
  | cons t rest =>
    rw [hr] at hres
    have h2 := h1 t rest hr d6 licensed6
    rw [score6] at h2
    have ht : t.prio = -1 := by
      simp only [List.map_cons, List.cons.injEq] at hres
      exact hres.1
    omega

end Depccg.LazyProps
