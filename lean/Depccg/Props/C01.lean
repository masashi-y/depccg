/-
  C01  A* search returns the highest-scoring derivation.  For the search with any admissible agenda:
  `first_parse_optimal`, `failure_only_if_none` (SearchOptimal.lean), `pops_nonincreasing`,
  `inside_bounded` (SearchBasics.lean); for the agenda of the real code SearchHeap.lean, for the lazy
  run and the whole call LazySearch.lean, EndToEnd.lean (`lean/obligations.json` lists them all).
-/
import Depccg.Props.SearchBasics
import Depccg.Props.SearchOptimal
