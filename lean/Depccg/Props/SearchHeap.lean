/-
  The agenda of the real code. `run` (what the driver executes and what is compared, pop by pop,
  with the real `parse_sentence`) is `runWith pickHeap`: libstdc++'s binary heap. `pickHeap` is an
  admissible agenda, so every search theorem holds of `run` itself; and the guard inside `popHeap`
  (needed to make it admissible on *arbitrary* lists) never fails in a run.
-/
import Depccg.Props.SearchBasics
import Depccg.Props.SearchOptimal
import Depccg.Props.SearchNBest
import Depccg.Proofs.HeapLemmas

namespace Depccg.SearchProps
open Depccg Search

/-- C02 for the real agenda -/
theorem run_returned_valid (g : Grammar) (s : Sent) (cfg : Cfg) :
    ∀ r ∈ (run g s cfg).results,
      LicensedRoot g s cfg r.d ∧ leafToks r.d = List.range s.n ∧ r.cat = dcat r.d ∧ r.fin = true :=
  returned_valid pickHeap g s cfg pickHeap_ok

/-- C09 for the real agenda -/
theorem run_score_accounting (g : Grammar) (s : Sent) (cfg : Cfg) :
    ∀ r ∈ (run g s cfg).results, r.prio = modelScore s cfg r.d :=
  score_accounting pickHeap g s cfg pickHeap_ok

/-- C01 (observable half) for the real agenda -/
theorem run_pops_nonincreasing (g : Grammar) (s : Sent) (cfg : Cfg) (hs : SentOK s) (hpen : 0 ≤ cfg.penalty) :
    ((run g s cfg).popped.map Item.prio).Pairwise (· ≥ ·) :=
  pops_nonincreasing pickHeap g s cfg pickHeap_ok hs hpen

/-- C01 for the real agenda -/
theorem run_first_parse_optimal (g : Grammar) (s : Sent) (cfg : Cfg) (hs : SentOK s) (hpen : 0 ≤ cfg.penalty)
    (hu : HeadUniform g) (h1 : cfg.nbest = 1) :
    ∀ t rest, (run g s cfg).results = t :: rest →
      ∀ d, LicensedRoot g s cfg d → modelScore s cfg d ≤ t.prio :=
  first_parse_optimal pickHeap g s cfg pickHeap_ok hs hpen hu h1

/-- C01 (failure) for the real agenda -/
theorem run_failure_only_if_none (g : Grammar) (s : Sent) (cfg : Cfg) (hs : SentOK s) (hpen : 0 ≤ cfg.penalty)
    (hu : HeadUniform g) (h1 : cfg.nbest = 1) :
    (run g s cfg).results = [] → (run g s cfg).steps < cfg.maxStep → ¬ ∃ d, LicensedRoot g s cfg d :=
  failure_only_if_none pickHeap g s cfg pickHeap_ok hs hpen hu h1

/-- C10 for the real agenda -/
theorem run_nbest_topk (g : Grammar) (s : Sent) (cfg : Cfg) (hs : SentOK s) (hpen : 0 ≤ cfg.penalty)
    (hn : 1 < cfg.nbest) (hsteps : (run g s cfg).steps < cfg.maxStep) :
    let res := (run g s cfg).results
    (∀ d, LicensedRoot g s cfg d → d ∉ res.map (·.d) → ∀ r ∈ res, modelScore s cfg d ≤ r.prio) ∧
    (res.length < cfg.nbest → ∀ d, LicensedRoot g s cfg d → d ∈ res.map (·.d)) ∧
    (res.map (·.d)).Nodup :=
  nbest_topk pickHeap g s cfg pickHeap_ok hs hpen hn hsteps

/-- in every state the search reaches, the agenda list is a heap: `popHeap` takes the heap branch
    (never the `popFirstMax` fallback) and is `std::pop_heap` on the vector -/
theorem run_agenda_always_heap (g : Grammar) (s : Sent) (cfg : Cfg) (fuel : Nat) :
    IsHeap (loop pickHeap g s cfg fuel (init pickHeap s cfg)).agenda.toArray :=
  loop_agenda_isHeap g s cfg fuel _ (init_agenda_isHeap s cfg)

theorem run_pop_is_heapPop (g : Grammar) (s : Sent) (cfg : Cfg) (fuel : Nat) :
    let st := loop pickHeap g s cfg fuel (init pickHeap s cfg)
    popHeap st.agenda = (heapPop st.agenda.toArray).map (fun p => (p.1, p.2.toList)) :=
  popHeap_eq_heapPop (run_agenda_always_heap g s cfg fuel)

end Depccg.SearchProps
