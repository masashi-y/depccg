/-
  C20  PTB and Japanese-bank text written by depccg reads back to the same tree.

  `JaRoundtripStatement` is false (a token attribute whose value is the empty string prints an
  empty inflection field, see `ja_roundtrip_original_false`); `JaRoundtripStatement'`, with the
  hypothesis `AllToks JaInflOK t` added, is proved as `ja_roundtrip_partial`.
-/
import Depccg.Props.C20Defs
import Depccg.Proofs.C20Lemmas
import Depccg.Proofs.Lit

namespace Depccg.C20
open Depccg Str Print Read TextProps

/-- a tree printed by `ptb_of` is read by `_parse_ptb` to its image (same categories, shape and
    escaped words; guessed labels) -/
theorem ptb_roundtrip : PtbRoundtripStatement := by
  intro lang t s hc hs htok h
  cases (ptbOf_fields (hasWord_of_ptbTokOK htok)).symm.trans h
  refine ⟨_, ptbImage_eq lang (C08.catOK_wf hc) hs (hasWord_of_ptbTokOK htok), ?_⟩
  have := ptbLoop_tree lang t hc hs htok 0 { stack := [], tokens := [] } []
  simp only [List.append_nil, closeN, List.nil_append] at this
  rw [parsePtb_body, ptbFields_split t hc htok 0, this]
  simp [ptbLoop]

/-- a proper prefix of the fields of a printed PTB line is rejected -/
theorem ptb_incomplete_rejected : PtbIncompleteRejectedStatement := by
  intro lang t s k hc _ htok h hk
  have hkind := ptbFields_kind t hc htok 1
  rw [ptbOf_split hc htok h] at hk ⊢
  cases k with
  | zero => exact parsePtb_short1 lang
  | succ j =>
    simp only [List.length_cons] at hk
    rw [List.take_succ_cons]
    cases j with
    | zero => exact parsePtb_short2 lang
    | succ i =>
      -- at least one field of the tree is kept, at least one is missing
      have hne : (ptbFields t 1).take (i + 1) ≠ [] := by
        have := List.length_pos_iff.2 (ptbFields_ne_nil t 1)
        intro e
        have := congrArg List.length e
        simp only [List.length_take, List.length_nil] at this
        omega
      obtain ⟨p, x, e⟩ : ∃ p x, (ptbFields t 1).take (i + 1) = p ++ [x] :=
        ⟨_, _, (List.dropLast_concat_getLast hne).symm⟩
      have hmem : ∀ y ∈ p ++ [x], y ∈ ptbFields t 1 := by
        intro y hy; rw [← e] at hy; exact List.mem_of_mem_take hy
      have hx := hkind x (hmem x (by simp))
      have hxne := kind_ne_nil x hx.1
      have hbal := (bal_prefix t htok 1 (i + 1) (by omega)).2 (by omega)
      rw [e]
      rw [e, bal_append] at hbal
      simp only [bal] at hbal
      have hJne : joinSep cSpace (p ++ [x]) ≠ [] := by
        by_cases hp : p = []
        · subst hp; simpa [joinSep] using hxne
        · rw [joinSep_append _ hp (List.cons_ne_nil _ _)]; simp
      -- `parsePtb` chops the last character unseen (on a whole line, the `)` of `(ROOT …)`): here it
      -- comes off the last kept field, which does not lower the balance (`wt_dropLast_of_kind`)
      have hline : joinSep cSpace (lit "(ROOT" :: (p ++ [x])) =
          lit "(ROOT " ++ joinSep cSpace (p ++ [x.dropLast]) ++
            [(joinSep cSpace (p ++ [x])).getLast hJne] := by
        rw [joinSep_cons _ _ (by simp), ← joinSep_dropLast _ _ _ hxne, List.append_assoc,
          List.dropLast_concat_getLast, lit_root, lit_root']
        rfl
      rw [hline]
      apply parsePtb_unbalanced
      have hsp : splitOn cSpace (joinSep cSpace (p ++ [x.dropLast])) = p ++ [x.dropLast] := by
        apply splitOn_joinSep _ _ (by simp)
        intro f hfm
        rcases List.mem_append.1 hfm with hfm | hfm
        · exact (hkind f (hmem f (List.mem_append_left _ hfm))).2.notMem (by decide)
        · rw [List.mem_singleton] at hfm
          subst hfm
          exact fun hm => hx.2.notMem (by decide) (List.dropLast_subset _ hm)
      rw [hsp, bal_append]
      have := wt_dropLast_of_kind x hx.1
      simp only [bal]
      omega

/-- a tree printed by `ja_of` is read by `_JaCCGLineReader` to its image, when no leaf prints an
    empty inflection field -/
theorem ja_roundtrip_partial : JaRoundtripStatement' := by
  intro t s hc htok hinfl hsym h
  have hw := hasWord_of_jaTokOK htok
  cases (jaOf_eq hw).symm.trans h
  refine ⟨jaImg t, jaToks t, jaImage_eq hw, ?_, jaToks_surf t⟩
  obtain ⟨_, this, _⟩ := jaNode_spec (jaText t) t hc htok hinfl hsym (2 * (jaText t).length + 2) 0 [] []
    (by have := nodes_le_jaText t; omega) (by simp)
  simp [readJaLine, this]

/-- `_suffix` and `{…}` annotations of a leaf category are removed before it is read -/
theorem ja_annot_irrelevant : JaAnnotIrrelevantStatement :=
  ⟨cutSuffix_suffix, cutSuffix_id, stripDeps_group, stripDeps_id⟩

/-! The fixtures are not `private`: Props/File.lean builds its batch from them. -/

instance (s : Str) : Decidable (C05.TriPart s) := by unfold C05.TriPart; infer_instance
instance (t : Token) : Decidable (JaInflOK t) := by unfold JaInflOK; infer_instance

def exS : Cat := .atom (lit "S") (.un (some (lit "dcl")))
def exNP : Cat := .atom (lit "NP") (.un none)
def exVP : Cat := .fn exS cBSlash exNP

def exEn : Tree :=
  .bin exS (lit "ba") (lit "<") false
    (.leaf exNP (Token.ofWord (lit "John")) [] [])
    (.leaf exVP (Token.ofWord (lit "sleeps")) [] [])

def exEnLine : Str := lit "(ROOT (S[dcl] (NP John) (S[dcl]\\NP sleeps)))"

/-- what the reader returns: bare word tokens, default leaf labels, the label and head of the
    guessed rule (backward application) on the binary node -/
def exEnImage : Tree :=
  .bin exS (lit "ba") (lit "<") true
    (.leaf exNP [(lit "word", lit "John")] (lit "lex") (lit "<lex>"))
    (.leaf exVP [(lit "word", lit "sleeps")] (lit "lex") (lit "<lex>"))

theorem exS_wf : C05.WF exS :=
  ⟨⟨by decide +kernel, by decide +kernel⟩,
   ⟨⟨by decide +kernel, by decide +kernel⟩, by decide +kernel⟩, by decide +kernel⟩
theorem exNP_wf : C05.WF exNP := ⟨⟨by decide, by decide⟩, trivial, fun _ => rfl⟩

theorem exEn_cats : AllCats CatOK exEn :=
  ⟨⟨exS_wf, by decide, by decide⟩, ⟨exNP_wf, by decide, by decide⟩,
   ⟨⟨exS_wf, by decide, exNP_wf⟩, by decide, by decide⟩⟩
theorem exEn_sys : AllCats (OneSystem .en) exEn := by
  simp [exEn, AllCats, OneSystem, exS, exNP, exVP, C14.AllUnary]
theorem exEn_toks : AllToks PtbTokOK exEn :=
  ⟨⟨lit "John", by decide, ⟨by decide, by decide⟩, by decide, by decide⟩,
   ⟨lit "sleeps", by decide, ⟨by decide, by decide⟩, by decide, by decide⟩⟩

theorem exEn_printed : ptbOf exEn = .ok exEnLine := by unfold exEnLine; decide_lit

example : ptbOf exEn = .ok exEnLine := exEn_printed
example : ptbImage .en exEn = .ok exEnImage := by decide +kernel
example : parsePtb .en exEnLine = .ok (exEnImage, exEnImage.tokens) := by
  unfold exEnLine; decide_lit
example : ∃ t', ptbImage .en exEn = .ok t' ∧ parsePtb .en exEnLine = .ok (t', t'.tokens) :=
  ptb_roundtrip .en exEn exEnLine exEn_cats exEn_sys exEn_toks exEn_printed

example : (splitOn cSpace exEnLine).length = 6 := by unfold exEnLine; decide_lit
example : joinSep cSpace ((splitOn cSpace exEnLine).take 4) = lit "(ROOT (S[dcl] (NP John)" := by
  unfold exEnLine; decide_lit
example : parsePtb .en (lit "(ROOT (S[dcl] (NP John)") = .error .runtime := by decide_lit
example : parsePtb .en (lit "(ROOT (S[dcl] (NP John) (S[dcl]\\NP") = .error .runtime := by
  decide_lit
example : ∃ e, parsePtb .en (joinSep cSpace ((splitOn cSpace exEnLine).take 4)) = .error e :=
  ptb_incomplete_rejected .en exEn exEnLine 4 exEn_cats exEn_sys exEn_toks exEn_printed
    (by unfold exEnLine; decide_lit)

def exJaNP : Cat :=
  .atom (lit "NP") (.tri (lit "case") (lit "ga") (lit "mod") (lit "nm") (lit "fin") (lit "f"))
def exJaS : Cat :=
  .atom (lit "S") (.tri (lit "mod") (lit "nm") (lit "form") (lit "base") (lit "fin") (lit "t"))
def exJaVP : Cat := .fn exJaS cBSlash exJaNP

def exJaTok1 : Token := [(lit "word", lit "猫"), (lit "pos", lit "名詞"), (lit "pos1", lit "一般")]
def exJaTok2 : Token :=
  [(lit "word", lit "寝る"), (lit "pos", lit "動詞"), (lit "inflectionForm", lit "基本形"),
   (lit "inflectionType", lit "一段")]

def exJa : Tree :=
  .bin exJaS (lit "ba") (lit "<") false (.leaf exJaNP exJaTok1 [] []) (.leaf exJaVP exJaTok2 [] [])

def exJaLine : Str :=
  lit ("{< S[mod=nm,form=base,fin=t] {NP[case=ga,mod=nm,fin=f] 猫/猫/名詞-一般/_} " ++
       "{S[mod=nm,form=base,fin=t]\\NP[case=ga,mod=nm,fin=f] 寝る/寝る/動詞/基本形-一段}}")

/-- what the reader returns: bare word tokens, the rule symbol as label and symbol, head left -/
def exJaImage : Tree :=
  .bin exJaS (lit "<") (lit "<") true
    (.leaf exJaNP [(lit "word", lit "猫")] (lit "lex") (lit "<lex>"))
    (.leaf exJaVP [(lit "word", lit "寝る")] (lit "lex") (lit "<lex>"))

theorem exJaNP_ok : JaCatOK exJaNP := by
  refine ⟨⟨⟨by decide +kernel, by decide +kernel⟩, ?_, by decide +kernel⟩, by decide +kernel,
    by decide +kernel⟩
  refine ⟨?_, ?_, ?_, ?_, ?_, ?_⟩ <;> decide +kernel
theorem exJaS_ok : JaCatOK exJaS := by
  refine ⟨⟨⟨by decide +kernel, by decide +kernel⟩, ?_, by decide +kernel⟩, by decide +kernel,
    by decide +kernel⟩
  refine ⟨?_, ?_, ?_, ?_, ?_, ?_⟩ <;> decide +kernel
theorem exJa_cats : AllCats JaCatOK exJa :=
  ⟨exJaS_ok, exJaNP_ok, ⟨exJaS_ok.1, by decide +kernel, exJaNP_ok.1⟩, by decide +kernel,
   by decide +kernel⟩
theorem exJa_toks : AllToks JaTokOK exJa :=
  ⟨⟨⟨lit "猫", by decide +kernel, ⟨by decide +kernel, by decide +kernel⟩, by decide +kernel⟩,
    by decide +kernel, by decide +kernel⟩,
   ⟨⟨lit "寝る", by decide +kernel, ⟨by decide +kernel, by decide +kernel⟩, by decide +kernel⟩,
    by decide +kernel, by decide +kernel⟩⟩
theorem exJa_infl : AllToks JaInflOK exJa :=
  ⟨(by decide +kernel : JaInflOK exJaTok1), (by decide +kernel : JaInflOK exJaTok2)⟩
theorem exJa_sym : SymOK exJa := ⟨by decide, trivial, trivial⟩

theorem exJa_printed : jaOf exJa = .ok exJaLine := by unfold exJaLine; decide_lit

example : jaOf exJa = .ok exJaLine := exJa_printed
example : jaImage exJa = .ok exJaImage := by decide +kernel
example : (readJaLine exJaLine).map (·.1) = .ok exJaImage := by unfold exJaLine; decide_lit
example : (readJaLine exJaLine).map (fun r => r.2.map fun tok => Token.getD tok (lit "surf") []) =
    .ok [lit "猫", lit "寝る"] := by unfold exJaLine; decide_lit
example : ∃ t' toks, jaImage exJa = .ok t' ∧ readJaLine exJaLine = .ok (t', toks) ∧
    toks.map (fun tok => Token.getD tok (lit "surf") []) =
      t'.tokens.map (fun tok => Token.getD tok (lit "word") []) :=
  ja_roundtrip_partial exJa exJaLine exJa_cats exJa_toks exJa_infl exJa_sym exJa_printed

example : Cat.parse (stripDeps (cutSuffix (lit "NP[case=ga,mod=nm,fin=f]{I1}_I1(unk,I1)"))) =
    .ok exJaNP := by decide_lit
example : readJaLine (lit "{NP[case=ga,mod=nm,fin=f]{I1}_I1 猫/猫/名詞-一般/_}") =
    readJaLine (lit "{NP[case=ga,mod=nm,fin=f] 猫/猫/名詞-一般/_}") := by decide_lit
example : (readJaLine (lit "{NP[case=ga,mod=nm,fin=f]{I1}_I1 猫/猫/名詞-一般/_}")).map (·.1.cat) =
    .ok exJaNP := by decide_lit

def cxTok : Token := [(lit "word", lit "a"), (lit "inflectionForm", [])]
def cxTree : Tree := .leaf exNP cxTok [] []

/-- the printed inflection field is empty, the reader's `[:-1]` eats the last `/` … -/
theorem cx_printed : jaOf cxTree = .ok (lit "{NP a/a/_/}") := by decide +kernel
theorem cx_read : readJaLine (lit "{NP a/a/_/}") = .error .valueError := by decide +kernel

example : jaOf cxTree = .ok (lit "{NP a/a/_/}") := cx_printed
example : readJaLine (lit "{NP a/a/_/}") = .error .valueError := cx_read

/-- … so `JaRoundtripStatement` (without `JaInflOK`) does not hold -/
theorem ja_roundtrip_original_false : ¬ JaRoundtripStatement := by
  intro h
  obtain ⟨t', toks, _, hr, _⟩ := h cxTree (lit "{NP a/a/_/}")
    ⟨exNP_wf, by decide +kernel, by decide +kernel⟩
    ⟨⟨lit "a", by decide +kernel, ⟨by decide +kernel, by decide +kernel⟩, by decide +kernel⟩,
     by decide +kernel, by decide +kernel⟩
    trivial cx_printed
  rw [cx_read] at hr
  cases hr

end Depccg.C20
