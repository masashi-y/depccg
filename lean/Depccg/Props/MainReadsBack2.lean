/-
  What the program writes can be read back, for `--format ptb` (through the model of `read_ptb`) and
  `--format prolog` (English and Japanese program, through the Prolog term reader), on the text
  `print_` emits, including the newline `print` adds: each is the decode lemma of the format with the
  suffix `[10]`.
-/
import Depccg.Proofs.CliLemmas
import Depccg.Props.MainReadsBack2Defs
import Depccg.Props.File
import Depccg.Props.C07Prolog
import Depccg.Proofs.RecordLines

namespace Depccg.CliProps
open Depccg Str Search GlueRun Lazy Print Cli LazyProps Read FileProps C07

theorem main_ptb_reads_back : MainPtbReadsBackStatement := by
  intro lang results text hok hp
  obtain ⟨t, ht, rfl⟩ := printText_record_inv (.inl rfl) hp
  exact fl_ptb_records lang _ t (scored_batchOK _ results hok) ht [10] (by decide)

theorem main_prolog_en_reads_back : MainPrologEnReadsBackStatement := by
  intro results text hb h
  obtain ⟨t, ht, rfl⟩ := addNewline_inv h
  exact pl_decode_en hb pl_ws_nl ht

theorem main_prolog_ja_reads_back : MainPrologJaReadsBackStatement := by
  intro results text hb h
  obtain ⟨t, ht, rfl⟩ := addNewline_inv h
  exact pl_decode_ja hb pl_ws_nl ht

end Depccg.CliProps
