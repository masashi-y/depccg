/-
  The whole program (`Cli.mainText`: input lines and tagger scores in, printed text out).
-/
import Depccg.Proofs.CliLemmas
import Depccg.Props.C05
import Depccg.Props.CliDefs
import Depccg.Props.TopLevel
import Depccg.Props.File
import Depccg.Proofs.RecordLines

namespace Depccg.CliProps
open Depccg Str Search GlueRun Lazy Print Cli Read FileProps LazyProps

/-- the `'{:.8f}'` text of `k/64` reads back to `k` -/
theorem fmt8_roundtrip : Fmt8RoundtripStatement := by
  intro k
  -- `15625 · 64 = 10^6`: the six decimals `r · 15625` of `r/64` and two zeros, times 64, are `r · 10^8`
  have hr : k.natAbs % 64 * 15625 * 100 * 64 = k.natAbs % 64 * 100000000 := by omega
  rw [fmt8_eq, fmt8Body, readFmt8_text (k < 0) _ _ _ (by omega) hr, Nat.div_add_mod', signed_natAbs]

/-- the score text of a result (`-inf` included) is a legal score text for the file readers -/
theorem fmt8_score_ok : Fmt8ScoreOKStatement := cli_scoreText_ok

/-- the three piped formats are read field by field -/
theorem of_piped : OfPipedStatement := by
  intro w l p e c hw hl hp he hc
  have h5 := splitOn_joinSep cBar [w, l, p, e, c] (by simp) (by simpa using ⟨hw, hl, hp, he, hc⟩)
  have h4 := splitOn_joinSep cBar [w, l, p, e] (by simp) (by simpa using ⟨hw, hl, hp, he⟩)
  have h3 := splitOn_joinSep cBar [w, p, e] (by simp) (by simpa using ⟨hw, hp, he⟩)
  refine ⟨?_, ?_, ?_⟩
  · unfold ofPiped; rw [h5]
  · unfold ofPiped; rw [h4]
  · unfold ofPiped; rw [h3]

theorem tokens_of_line : TokensOfLineStatement := by
  intro ws hne hw
  unfold tokensOfLine
  rw [splitOn_joinSep cSpace ws hne hw]
  simp only [Bool.false_eq_true, if_false]
  exact mapExcept_pure Token.ofWord ws

/-- `--root-cats` reads back the categories whose texts were joined by `|` -/
theorem roots_of : RootsOfStatement := by
  intro cs hne h
  unfold rootsOf
  rw [splitOn_joinSep cBar (cs.map Cat.str) (by simpa using hne)]
  · exact mapExcept_map_ok Cat.parse Cat.str cs (fun c hc => C05.parse_print c (h c hc).1)
  · intro w hw
    obtain ⟨c, hc, rfl⟩ := List.mem_map.1 hw
    exact (h c hc).2

/-- C11 at the level of the program: the printed records are those of each sentence parsed alone,
    in input order -/
theorem main_eq_map_solo : MainEqMapSoloStatement := by
  intro G o lines tagCats scores roots categories doc hr hd hc hnd hlex results hres
  rw [mainText_eq_solo G o hr hd hc hnd hlex, hres]

theorem main_procs_irrelevant : MainProcsIrrelevantStatement := by
  intro G o procs' lines tagCats scores categories hc hnd hlex
  cases hr : rootsOf o.rootCats with
  | error e => simp only [mainText, hr]
  | ok roots =>
    cases hd : Cli.mapExcept (tokensOfLine o.piped) lines with
    | error e => simp only [mainText, hr, hd]
    | ok doc =>
      rw [mainText_eq_solo G o hr hd hc hnd (hlex doc hd),
        mainText_eq_solo G { o with procs := procs' } hr hd hc hnd (hlex doc hd)]

/-- the AUTO text printed is read by `read_auto` to one result per returned tree -/
theorem main_auto_reads_back : MainAutoReadsBackStatement := by
  intro lang results text hok hp
  obtain ⟨t, ht, rfl⟩ := printText_record_inv (.inl rfl) hp
  exact fl_auto_records lang _ t (scored_batchOK _ results hok) ht [10] (by decide)

section examples

example : fmt8 (-96) = lit "-1.50000000" := by decide +kernel
example : fmt8 5 = lit "0.07812500" := by decide +kernel
example : fmt8 0 = lit "0.00000000" := by decide +kernel
example : fmt8 (-1) = lit "-0.01562500" := by decide +kernel
example : fmt8 6400 = lit "100.00000000" := by decide +kernel
example : readFmt8 (lit "-1.50000000") = some (-96) := by decide +kernel
example : readFmt8 (lit "0.07812500") = some 5 := by decide +kernel
/-- not every `d+.d{8}` text is a multiple of 1/64; a text with a second point is not read -/
example : readFmt8 (lit "0.10000000") = none := by decide +kernel
example : readFmt8 (lit "1.5.0000000") = none := by decide +kernel
example : scoreText none = lit "-inf" := rfl

example : ofPiped (lit "John|NNP|I-PER") =
    .ok [(lit "word", lit "John"), (lit "lemma", lit "XX"), (lit "pos", lit "NNP"),
         (lit "entity", lit "I-PER"), (lit "chunk", lit "XX")] := by decide +kernel
example : ofPiped (lit "runs|run|VBZ|O|I-VP") =
    .ok [(lit "word", lit "runs"), (lit "lemma", lit "run"), (lit "pos", lit "VBZ"),
         (lit "entity", lit "O"), (lit "chunk", lit "I-VP")] := by decide +kernel
example : ofPiped (joinSep cBar [lit "runs", lit "run", lit "VBZ", lit "O"]) =
    .ok [(lit "word", lit "runs"), (lit "lemma", lit "run"), (lit "pos", lit "VBZ"),
         (lit "entity", lit "O"), (lit "chunk", lit "XX")] :=
  (of_piped (lit "runs") (lit "run") (lit "VBZ") (lit "O") [] (by unfold NoBar; decide)
    (by unfold NoBar; decide) (by unfold NoBar; decide) (by unfold NoBar; decide) (by unfold NoBar; decide)).2.1
example : ofPiped (lit "John|NNP") = .error .assertion := by decide +kernel
example : ofPiped (lit "a|b|c|d|e|f") = .error .assertion := by decide +kernel

example : tokensOfLine false (lit "John sleeps") =
    .ok [Token.ofWord (lit "John"), Token.ofWord (lit "sleeps")] := by
  rw [show lit "John sleeps" = joinSep cSpace [lit "John", lit "sleeps"] by decide_lit]
  exact tokens_of_line [lit "John", lit "sleeps"] (by decide) (by
    intro w hw
    simp only [List.mem_cons, List.not_mem_nil, or_false] at hw
    rcases hw with rfl | rfl <;> (unfold NoBlank; decide))

def exG : CatGrammar := { bin := fun _ _ => [], un := fun _ => [] }
def exCfg : Cfg := { penalty := 6, pruning := 50, nbest := 1, maxStep := 10000000 }
def exO : Opts where
  cfg := exCfg
  maxLength := 250
  procs := 4
  rootCats := lit "S[dcl]|NP"
  piped := false
  format := .auto
def exScores : List Scores := [{ tags := [[-32]], deps := [[-8, 0]], passes := [[true]] }]

/-- tag score -0.5, root dependency score -0.125 -/
theorem exMain : mainText exG exO [lit "John"] [lit "NP"] exScores =
    .ok (lit "ID=1, log probability=-0.62500000\n(<L NP XX XX John NP>)\n\n") := by decide_lit

/-- the only category of the tagger is not a root category: the placeholder, score `-inf` -/
example : mainText exG exO [lit "John"] [lit "S"] exScores =
    .ok (lit "ID=1, log probability=-inf\n(<L NP POS POS FAILED NP>)\n\n") := by decide_lit

example : mainText exG { exO with procs := 1 } [lit "John"] [lit "NP"] exScores =
    .ok (lit "ID=1, log probability=-0.62500000\n(<L NP XX XX John NP>)\n\n") := by
  rw [main_procs_irrelevant exG exO 1 [lit "John"] [lit "NP"] exScores [.atom (lit "NP") (.un none)]
    (by decide +kernel) (by decide)]
  · exact exMain
  · intro doc hdoc x hx
    have : doc = [[Token.ofWord (lit "John")]] := by
      have h : Cli.mapExcept (tokensOfLine exO.piped) [lit "John"] = .ok [[Token.ofWord (lit "John")]] := by
        decide +kernel
      rw [h] at hdoc
      cases hdoc
      rfl
    subst this
    simp only [zipSents, exScores, List.mem_singleton] at hx
    subst hx
    intro row hrow
    simp only [List.mem_singleton] at hrow
    subst hrow
    decide

example : (readAutoFile .en (lit "ID=1, log probability=-0.62500000\n(<L NP XX XX John NP>)\n\n")).map
    (fun rs => rs.map (·.1)) = .ok [lit "ID=1, log probability=-0.62500000"] := by decide_lit

example : rootsOf (lit "S[dcl]|NP") = .ok [C20.exS, C20.exNP] := by decide +kernel

example : rootsOf (joinSep cBar ([C20.exS, C20.exNP].map Cat.str)) = .ok [C20.exS, C20.exNP] := by
  refine roots_of [C20.exS, C20.exNP] (by decide) ?_
  intro c hc
  simp only [List.mem_cons, List.not_mem_nil, or_false] at hc
  rcases hc with rfl | rfl
  · exact ⟨C20.exS_wf, by unfold NoBar; decide +kernel⟩
  · exact ⟨C20.exNP_wf, by unfold NoBar; decide +kernel⟩

/-- a category with the `|` slash cannot be named: the text is cut inside it -/
example : rootsOf (Cat.fn C20.exS cBar C20.exNP).str = .ok [C20.exS, C20.exNP] := by decide +kernel

theorem placeholder_auto : AutoTreeOK .en placeholder := by
  refine ⟨exNP_ok, trivial, ⟨_, rfl⟩, ?_⟩
  simp only [TextProps.PlainWord]; decide

def exResults : List SentResult := [.parsed [(exC, -40)], .failed]

theorem exResults_printed : printText .auto exResults =
    .ok (lit ("ID=1, log probability=-0.62500000\n(<L NP XX XX Mary NP>)\n" ++
              "ID=2, log probability=-inf\n(<L NP POS POS FAILED NP>)\n\n")) := by decide_lit

example : ∃ rs, fileImage (TextProps.autoImage .en) (exResults.map scored) = .ok rs ∧
    readAutoFile .en (lit ("ID=1, log probability=-0.62500000\n(<L NP XX XX Mary NP>)\n" ++
              "ID=2, log probability=-inf\n(<L NP POS POS FAILED NP>)\n\n")) = .ok rs := by
  refine main_auto_reads_back .en exResults _ ?_ exResults_printed
  intro r hr ts hts
  simp only [exResults, List.mem_cons, List.not_mem_nil, or_false] at hr
  rcases hr with rfl | rfl
  · simp only [scored, List.map_cons, List.map_nil, List.mem_singleton] at hts
    subst hts
    exact exC_auto
  · simp only [scored, List.mem_singleton] at hts
    subst hts
    exact placeholder_auto

end examples

end Depccg.CliProps
