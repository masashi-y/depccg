/-
  C07 for `--format json`, at the level of the printed characters: the text of
  `json.dumps(results, indent=4)` (`Print.jsonText`), read by the independent JSON reader
  `Read.parseJson` / `Read.readJsonOutput`, gives back the value that was printed and from it the
  sentence numbers, the n-best order, every score and every json tree.
-/
import Depccg.Props.C07JsonDefs
import Depccg.Proofs.C07JsonLemmas
import Depccg.Proofs.Lit

namespace Depccg.C07Json
open Depccg Str Print

theorem json_roundtrip : JsonRoundtripStatement := fun v ind h => js_roundtrip v ind h

/-- the serialiser is injective on values whose strings hold no surrogates -/
theorem json_injective : JsonInjectiveStatement := fun v w hv hw e =>
  Option.some.inj ((js_roundtrip v 0 hv).symm.trans (e ▸ js_roundtrip w 0 hw))

/-- the output is plain ASCII whatever the words are -/
theorem json_ascii : JsonAsciiStatement := fun v ind => ascii_render v ind

/-- the spelling `jsonFloat` of a score is read back exactly -/
theorem json_float : JsonFloatStatement := fun k => by
  have := js_roundtrip (.num k) 0 trivial
  rwa [JVal.render] at this

theorem json_text_decode : JsonTextDecodeStatement := js_text_decode

theorem json_text_injective : JsonTextInjectiveStatement := fun a b ha hb e =>
  Option.some.inj ((js_text_decode a ha).symm.trans (e ▸ js_text_decode b hb))

section examples

private def cNP : Cat := .atom (lit "NP") (.un none)
private def cN : Cat := .atom (lit "N") (.un none)
private def cS : Cat := .atom (lit "S") (.un (some (lit "dcl")))
private def cVP : Cat := .fn cS cBSlash cNP

/-- (`N` ⇒ `NP`) + `S[dcl]\NP` ⇒ `S[dcl]`; a word with a quote, a backslash, a newline, a Latin-1
    letter, a character of the basic plane above the surrogates and an emoji (a surrogate pair in
    the output); a token with several attributes -/
private def exTree : Tree :=
  .bin cS (lit "ba") (lit "<") false
    (.un cNP (lit "lex") (lit "<un>")
      (.leaf cN [(lit "word", [34, 65, 92, 10, 233, 65279, 128512]), (lit "lemma", lit "a/b")] (lit "lex") (lit "<lex>")))
    (.leaf cVP (Token.ofWord (lit "x")) (lit "lex") (lit "<lex>"))

/-- two sentences: one with two parses (scores -37/64 and -1/64), one failed (a placeholder leaf, `-inf`) -/
private def exBatch : List (List (Tree × Option Int)) :=
  [[(exTree, some (-37)), (.leaf cN (Token.ofWord (lit "y")) (lit "lex") (lit "<lex>"), some (-1))],
   [(.leaf cNP (Token.ofWord (lit "fail")) (lit "lex") (lit "<lex>"), none)]]

example : BatchOK exBatch := by decide +kernel

example : Read.readJsonOutput (jsonText exBatch) = some (expected 1 exBatch) := by decide +kernel

example : Read.readJsonOutput (jsonText exBatch) = some (expected 1 exBatch) :=
  json_text_decode exBatch (by decide +kernel)

/-- general JSON the printer never writes: other blanks, `\/`, upper-case hex, a surrogate pair, an
    integer part with several digits -/
example : Read.readJsonOutput (lit "\t{ \"7\" :[{\"word\":\"a\\/\\u00E9\\uD83D\\ude00\" ,\r\n \"log_prob\": -12.25}] }\n")
    = some [(7, [(.leaf [(lit "word", [97, 47, 233, 128512])], some (-784))])] := by decide_lit

end examples

end Depccg.C07Json
