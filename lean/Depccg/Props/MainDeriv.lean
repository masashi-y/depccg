/-
  `--format deriv` at the level of the whole output: the reader `Read.decBlockDoc`
  (Depccg/Read/BlockDoc.lean) splits the text that `to_string(…, 'deriv')` / `print_` emits into its
  records — sentence number, score text, block — one per returned tree, in order; a printed
  derivation is a block, and every block is read back by the derivation reader `Read.decDeriv`.
-/
import Depccg.Proofs.CliLemmas
import Depccg.Props.MainDerivDefs
import Depccg.Props.C07Deriv
import Depccg.Proofs.MainDerivLemmas

namespace Depccg.CliProps
open Depccg Str Search GlueRun Lazy Print Cli LazyProps Read C07 TextProps

/-- the text of `to_string(batch, format)` for a format that prints blocks is read back record by
    record -/
theorem block_doc_decode : BlockDocDecodeStatement := fun fmt batch text h hp =>
  let ⟨out, hf, hrun⟩ := records_doc blockDoc_reads fmt batch text h hp
  ⟨out, by simpa using hrun [] rfl, hf⟩

/-- a printed derivation is a block: the two header lines, then a rule line and a category line per
    internal node, all non-empty, each ended by its newline -/
theorem deriv_is_block : DerivIsBlockStatement := fun t s hc ht hy hs =>
  let ⟨e, hl, _⟩ := dd_printed t s hc ht hy hs
  ⟨dd_docLines t, List.cons_ne_nil _ _, hl, e⟩

/-- what `main` prints under `--format deriv` (the text of `to_string` and the newline of `print`)
    is read back: one record per returned tree, named by sentence, with its score text, and the
    block is read by `decDeriv` to the words, shape, categories and rule symbols of the tree -/
theorem main_deriv_reads_back : MainDerivReadsBackStatement := fun results text hok hp =>
  printText_records blockDoc_reads (f := .deriv) (.inr rfl) results text
    (Q := fun t s => decDeriv s = some (viewDeriv t))
    (fun r hr ts hts s hs =>
      let ⟨hc, ht, hy⟩ := hok r hr ts hts
      ⟨deriv_is_block ts.1 s hc ht hy hs, deriv_decode ts.1 s hc ht hy hs⟩) hp

/-! Two sentences, the first with two trees, the second failed (the placeholder,
  score text `-inf`), printed in the `deriv` format -/

section examples

private def bN : Cat := .atom (lit "N") (.un none)
private def bNP : Cat := .atom (lit "NP") (.un none)
private def bS : Cat := .atom (lit "S") (.un (some (lit "dcl")))
private def bVP : Cat := .fn bS cBSlash bNP

private def bSleeps : Tree :=
  .leaf bVP [(lit "word", lit "sleeps"), (lit "lemma", lit "sleep"), (lit "pos", lit "VBZ")]
    (lit "lex") (lit "<lex>")

private def bTree1 : Tree :=
  .bin bS (lit "ba") (lit "<") false (.leaf bNP [(lit "word", lit "Kim")] (lit "lex") (lit "<lex>")) bSleeps

private def bTree2 : Tree :=
  .bin bS (lit "ba") (lit "<") true
    (.un bNP (lit "lex") (lit "<un>") (.leaf bN [(lit "word", lit "Kim")] (lit "lex") (lit "<lex>"))) bSleeps

private def bResults : List SentResult := [.parsed [(bTree1, -32), (bTree2, -100)], .failed]

private def bBlock1 : Str := lit " NP   S[dcl]\\NP\n Kim   sleeps\n----------------<\n     S[dcl]\n"
private def bBlock2 : Str :=
  lit "  N   S[dcl]\\NP\n Kim   sleeps\n-----<un>\n NP\n----------------<\n     S[dcl]\n"
private def bBlock3 : Str := lit "   NP\n FAILED\n"

private def bText : Str :=
  lit "ID=1, log probability=-0.50000000\n" ++ bBlock1 ++ lit "\n" ++
  lit "ID=1, log probability=-1.56250000\n" ++ bBlock2 ++ lit "\n" ++
  lit "ID=2, log probability=-inf\n" ++ bBlock3 ++ lit "\n" ++
  lit "\n"

example : printText Fmt.deriv bResults = .ok bText ∧
    decBlockDoc bText =
      some [(1, lit "-0.50000000", bBlock1), (1, lit "-1.56250000", bBlock2), (2, lit "-inf", bBlock3)] ∧
    decDeriv bBlock2 = some (viewDeriv bTree2) := by
  unfold bText bBlock1 bBlock2 bBlock3; decide_lit

/-- the reader is strict: text before the first record, a header without a block (at an empty line
    or at the end of the text), a block that is not closed by an empty line are rejected; a line
    inside a block that looks like a header is a line of the block; empty lines between the records
    and at the end are skipped -/
example : decBlockDoc (lit "x\nID=1, log probability=0\na\n\n") = none := by decide_lit
example : decBlockDoc (lit "ID=1, log probability=0\n\na\n\n") = none := by decide_lit
example : decBlockDoc (lit "ID=1, log probability=0") = none := by decide_lit
example : decBlockDoc (lit "ID=1, log probability=0\na\nb") = none := by decide_lit
example : decBlockDoc (lit "ID=1 log probability=0\na\n\n") = none := by decide_lit
example : decBlockDoc (lit "\n\nID=1, log probability=0\na\nID=7, log probability=1\n\n\n\nID=2, log probability=\nb\n\n\n") =
    some [(1, lit "0", lit "a\nID=7, log probability=1\n"), (2, [], lit "b\n")] := by
  decide_lit
example : decBlockDoc [] = some [] := by decide +kernel

end examples

end Depccg.CliProps
