/-
  The search theorems (C01 C02 C09 C10 C16), transported to the lazy run — the model of what
  `parse_sentence` really does, with the rule cache filled during the search — by rewriting with
  `runL_eq`: under the glue invariant and with every tag column an id of the table, the outcome of
  a lazy run equals that of `Search.run` over the id-level view `view gstF` of its own final cache.
  (C02, with it C16, and the order of the results hold of every lazy run and do not go through it.)
  "Licensed" below therefore means: licensed by the rule-function results the search has cached,
  which `lazy_inv` / `Represents` tie to the rule functions themselves.
-/
import Depccg.Props.Lazy
import Depccg.Props.SearchHeap

namespace Depccg.LazyProps
open Depccg Search SearchProps GlueTree GlueRun Lazy GlueRunProps

/-- the hypotheses under which `run` starts a sentence: the glue invariant holds and the tag
    matrix has no more columns than the category table has entries -/
structure Ready (G : GlueRun.CatGrammar) (gst : GSt) (s : Sent) : Prop where
  inv : Inv' G gst
  lex : ∀ row ∈ s.tags, row.length ≤ gst.cats.length

theorem runL_eq {G : GlueRun.CatGrammar} {gst : GSt} {s : Sent} (cfg : Cfg) (h : Ready G gst s) :
    (runL G gst s cfg).1 = run (view (runL G gst s cfg).2) s cfg :=
  lz_run_eq pickHeap_ok h.inv h.lex

theorem runL_eq_run (G : GlueRun.CatGrammar) (gst : GSt) (s : Sent) (cfg : Cfg) (h : Ready G gst s) :
    SameOutcome (runL G gst s cfg).1 (run (view (runL G gst s cfg).2) s cfg) :=
  sameOutcome_iff.2 (runL_eq cfg h)

/-- C02: every returned item carries a licensed complete parse over the sentence's tokens
    (of every lazy run: `h` is not used) -/
theorem lazy_returned_valid (G : GlueRun.CatGrammar) (gst : GSt) (s : Sent) (cfg : Cfg) (h : Ready G gst s) :
    ∀ r ∈ (runL G gst s cfg).1.results,
      LicensedRoot (view (runL G gst s cfg).2) s cfg r.d ∧ leafToks r.d = List.range s.n ∧ r.cat = dcat r.d ∧ r.fin = true := by
  exact lz_results_valid pickHeap_ok G gst s cfg

/-- C16: the supertag on every leaf of a returned parse was admitted by the beam
    (from C02: `h` is not used) -/
theorem lazy_leaf_tags_admitted (G : GlueRun.CatGrammar) (gst : GSt) (s : Sent) (cfg : Cfg) (h : Ready G gst s) :
    ∀ r ∈ (runL G gst s cfg).1.results, ∀ tc ∈ leafCats r.d, ∃ sc, (sc, tc.2) ∈ admitted s cfg tc.1 := by
  intro r hr tc htc
  exact leaf_tags_admitted _ s cfg r.d (lazy_returned_valid G gst s cfg h r hr).1.1 tc htc

/-- C09: the reported score is the model score of the returned derivation -/
theorem lazy_score_accounting (G : GlueRun.CatGrammar) (gst : GSt) (s : Sent) (cfg : Cfg) (h : Ready G gst s) :
    ∀ r ∈ (runL G gst s cfg).1.results, r.prio = modelScore s cfg r.d := by
  rw [runL_eq cfg h]
  exact run_score_accounting _ s cfg

/-- C01 (observable half): popped priorities never increase -/
theorem lazy_pops_nonincreasing (G : GlueRun.CatGrammar) (gst : GSt) (s : Sent) (cfg : Cfg) (h : Ready G gst s)
    (hs : SentOK s) (hpen : 0 ≤ cfg.penalty) :
    ((runL G gst s cfg).1.popped.map Item.prio).Pairwise (· ≥ ·) := by
  rw [runL_eq cfg h]
  exact run_pops_nonincreasing _ s cfg hs hpen

/-- C01: with a head-uniform cache the first parse is optimal among everything the cache licenses -/
theorem lazy_first_parse_optimal (G : GlueRun.CatGrammar) (gst : GSt) (s : Sent) (cfg : Cfg) (h : Ready G gst s)
    (hs : SentOK s) (hpen : 0 ≤ cfg.penalty) (hu : HeadUniform (view (runL G gst s cfg).2)) (h1 : cfg.nbest = 1) :
    ∀ t rest, (runL G gst s cfg).1.results = t :: rest →
      ∀ d, LicensedRoot (view (runL G gst s cfg).2) s cfg d → modelScore s cfg d ≤ t.prio := by
  rw [runL_eq cfg h]
  exact run_first_parse_optimal _ s cfg hs hpen hu h1

/-- C01: failure with budget left means the cache licenses no complete parse -/
theorem lazy_failure_only_if_none (G : GlueRun.CatGrammar) (gst : GSt) (s : Sent) (cfg : Cfg) (h : Ready G gst s)
    (hs : SentOK s) (hpen : 0 ≤ cfg.penalty) (hu : HeadUniform (view (runL G gst s cfg).2)) (h1 : cfg.nbest = 1) :
    (runL G gst s cfg).1.results = [] → (runL G gst s cfg).1.steps < cfg.maxStep →
      ¬ ∃ d, LicensedRoot (view (runL G gst s cfg).2) s cfg d := by
  rw [runL_eq cfg h]
  exact run_failure_only_if_none _ s cfg hs hpen hu h1

/-- C10: the n-best list is the top of all licensed complete parses, without repetition -/
theorem lazy_nbest_topk (G : GlueRun.CatGrammar) (gst : GSt) (s : Sent) (cfg : Cfg) (h : Ready G gst s)
    (hs : SentOK s) (hpen : 0 ≤ cfg.penalty) (hn : 1 < cfg.nbest) (hsteps : (runL G gst s cfg).1.steps < cfg.maxStep) :
    let res := (runL G gst s cfg).1.results
    let g := view (runL G gst s cfg).2
    (∀ d, LicensedRoot g s cfg d → d ∉ res.map (·.d) → ∀ r ∈ res, modelScore s cfg d ≤ r.prio) ∧
    (res.length < cfg.nbest → ∀ d, LicensedRoot g s cfg d → d ∈ res.map (·.d)) ∧
    (res.map (·.d)).Nodup := by
  rw [runL_eq cfg h] at hsteps ⊢
  exact run_nbest_topk _ s cfg hs hpen hn hsteps

/-- C10 (order, count): best first, never more than `nbest` -/
theorem lazy_results_sorted (G : GlueRun.CatGrammar) (gst : GSt) (s : Sent) (cfg : Cfg) :
    ((runL G gst s cfg).1.results.map Item.prio).Pairwise (· ≥ ·) :=
  List.pairwise_map.2 (sortDesc_sorted _)

theorem lazy_results_count (G : GlueRun.CatGrammar) (gst : GSt) (s : Sent) (cfg : Cfg) (h : Ready G gst s) :
    (runL G gst s cfg).1.results.length ≤ cfg.nbest := by
  rw [runL_eq cfg h]
  exact results_count pickHeap _ s cfg pickHeap_ok

/-- the hypotheses hold at the start of every sentence of a `run` call: `Ready` after any history
    (`LexOK` is `Ready.lex` for the caller's list; the table only grows) -/
theorem ready_of_history (G : GlueRun.CatGrammar) (categories roots : List Cat) (calls : List Call) (x : SentIn)
    (hnd : categories.Nodup) (hlex : LexOK categories x) :
    Ready G (calls.foldl (GlueRun.step G) (GlueRun.init categories roots)) (sentOf (addRoots categories roots).2 x) :=
  ⟨run_inv' G categories roots calls hnd, lz_tags_mono hlex (run_inv G categories roots calls hnd).2⟩

end Depccg.LazyProps
