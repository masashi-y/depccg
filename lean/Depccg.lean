-- The model: strings, categories, unification, the two grammars
import Depccg.Str
import Depccg.Cat
import Depccg.Unify
import Depccg.En
import Depccg.Ja
-- the search, the callbacks with their category table and rule cache, trees, the whole call
import Depccg.Search
import Depccg.Glue
import Depccg.GlueRun
import Depccg.GlueTree
import Depccg.Tree
import Depccg.Lazy
import Depccg.TreeScore
-- the printers
import Depccg.Print.Text
import Depccg.Print.More
import Depccg.Print.Xml
import Depccg.Print.Html
import Depccg.Print.Json
import Depccg.Print.XmlText
-- the readers: of a line, of a file, of a whole output
import Depccg.Read.Text
import Depccg.Read.Deriv
import Depccg.Read.Prolog
import Depccg.Read.Conll
import Depccg.Read.Json
import Depccg.Read.XmlText
import Depccg.Read.File
import Depccg.Read.ConllDoc
import Depccg.Read.LineDoc
import Depccg.Read.BlockDoc
-- the program: command line and configuration
import Depccg.Cli
import Depccg.Config
-- the tables emitted from the shipped files (all of `Generated/`)
import Depccg.Generated.All
-- the driver's operations
import Depccg.Wire
import Depccg.OpsConfig
import Depccg.OpsSearch
import Depccg.OpsGlue
import Depccg.OpsTree
import Depccg.OpsXml
import Depccg.OpsMore
import Depccg.OpsLazy
import Depccg.Ops
-- The statements, by property: categories and rules
import Depccg.Props.C05Defs
import Depccg.Props.ReadWFDefs
import Depccg.Props.C06Defs
import Depccg.Props.C03Defs
import Depccg.Props.C04Defs
import Depccg.Props.C14Defs
import Depccg.Props.ClosureDefs
import Depccg.Props.SystemDefs
-- search, glue, the lazy run
import Depccg.Props.SearchDefs
import Depccg.Props.SearchLocalDefs
import Depccg.Props.C11Defs
import Depccg.Props.EndToEndDefs
import Depccg.Props.GlueRunDefs
import Depccg.Props.LazyDefs
import Depccg.Props.LazyDefs2
import Depccg.Props.FullOptimalDefs
import Depccg.Props.TreeLevelDefs
import Depccg.Props.OutputWFDefs
-- printers and readers; the category dictionary
import Depccg.Props.TextDefs
import Depccg.Props.C07Defs
import Depccg.Props.C07HtmlDefs
import Depccg.Props.C07DerivDefs
import Depccg.Props.C07PrologDefs
import Depccg.Props.C07ConllDefs
import Depccg.Props.C07JsonDefs
import Depccg.Props.C08Defs
import Depccg.Props.C20Defs
import Depccg.Props.FileDefs
import Depccg.Props.C15Defs
import Depccg.Props.C15TextDefs
import Depccg.Props.C15FileDefs
import Depccg.Props.C19Defs
import Depccg.Props.NumFmtDefs
import Depccg.Props.C17Defs
-- the program
import Depccg.Props.CliDefs
import Depccg.Props.ConfigDefs
import Depccg.Props.MainTotalDefs
import Depccg.Props.MainTotalDefs2
import Depccg.Props.MainTotalXmlDefs
import Depccg.Props.MainReadsBackDefs
import Depccg.Props.MainReadsBack2Defs
import Depccg.Props.MainConllDefs
import Depccg.Props.MainLineDefs
import Depccg.Props.MainLine2Defs
import Depccg.Props.MainDerivDefs
import Depccg.Props.ProgramDefs
-- The lemmas (DESIGN.md §0): shared notions
import Depccg.Proofs.Lit
import Depccg.Proofs.StrLemmas
import Depccg.Proofs.DictLemmas
import Depccg.Proofs.ExceptLemmas
import Depccg.Proofs.PrintLemmas
import Depccg.Proofs.TreeLemmas
import Depccg.Proofs.RereadLemmas
import Depccg.Proofs.TokenLemmas
import Depccg.Proofs.CatClass
-- one module per part of the model: categories and rules
import Depccg.Proofs.C05Lemmas
import Depccg.Proofs.C06Lemmas
import Depccg.Proofs.C14Lemmas
import Depccg.Proofs.CombShapes
import Depccg.Proofs.Rules
import Depccg.Proofs.C03Lemmas
import Depccg.Proofs.C04Lemmas
import Depccg.Proofs.RuleClosure
-- search, glue, the lazy run
import Depccg.Proofs.SearchLemmas
import Depccg.Proofs.SearchClosure
import Depccg.Proofs.OptimalLemmas
import Depccg.Proofs.NBestLemmas
import Depccg.Proofs.HeapLemmas
import Depccg.Proofs.SearchLocalLemmas
import Depccg.Proofs.C11Lemmas
import Depccg.Proofs.GlueRunLemmas
import Depccg.Proofs.GlueTreeLemmas
import Depccg.Proofs.LazyLemmas
import Depccg.Proofs.LazySentenceLemmas
import Depccg.Proofs.CompleteCacheLemmas
import Depccg.Proofs.LazyHistoryLemmas
-- the formats; the category dictionary
import Depccg.Proofs.C08Lemmas
import Depccg.Proofs.C20Lemmas
import Depccg.Proofs.FileLemmas
import Depccg.Proofs.C07Lemmas
import Depccg.Proofs.C07ConllLemmas
import Depccg.Proofs.C07DerivLemmas
import Depccg.Proofs.C07JsonLemmas
import Depccg.Proofs.C07PrologLemmas
import Depccg.Proofs.C07HtmlLemmas
import Depccg.Proofs.JiggSpec
import Depccg.Proofs.C15Lemmas
import Depccg.Proofs.XmlAttrLemmas
import Depccg.Proofs.C15TextLemmas
import Depccg.Proofs.C15FileLemmas
import Depccg.Proofs.C17Lemmas
import Depccg.Proofs.C19Lemmas
import Depccg.Proofs.NumFmtLemmas
import Depccg.Proofs.ScoreLemmas
-- the program
import Depccg.Proofs.ConfigLemmas
import Depccg.Proofs.CliLemmas
import Depccg.Proofs.RecordLines
import Depccg.Proofs.MainConllLemmas
import Depccg.Proofs.MainDerivLemmas
import Depccg.Proofs.MainReadsBackLemmas
import Depccg.Proofs.MainTotalLemmas
import Depccg.Proofs.MainTotalXmlLemmas
import Depccg.Proofs.ProgramParseLemmas
-- whole runs
import Depccg.Proofs.ClosureLemmas
import Depccg.Proofs.SystemLemmas
import Depccg.Proofs.OutputWFLemmas
import Depccg.Proofs.FullOptimalLemmas
import Depccg.Proofs.TreeLevelLemmas
-- The theorems, by property. Group A, category algebra: C13, C05, C06, C03, C04, C14
import Depccg.Props.C13
import Depccg.Props.C05
import Depccg.Props.C06
import Depccg.Props.C03
import Depccg.Props.C04
import Depccg.Props.C14
import Depccg.Props.Closure
import Depccg.Props.System
-- Group B, search: C01, C02, C09, C10, C12, C16, C11; from ids to trees; the lazy run of the whole call
import Depccg.Props.SearchBasics
import Depccg.Props.SearchOptimal
import Depccg.Props.SearchNBest
import Depccg.Props.SearchHeap
import Depccg.Props.SearchLocal
import Depccg.Props.C01
import Depccg.Props.C02
import Depccg.Props.C09
import Depccg.Props.C10
import Depccg.Props.C12
import Depccg.Props.C12Glue
import Depccg.Props.C16
import Depccg.Props.C11
import Depccg.Props.EndToEnd
import Depccg.Props.GlueRun
import Depccg.Props.GlueEndToEnd
import Depccg.Props.Lazy
import Depccg.Props.LazyHistory
import Depccg.Props.LazySearch
import Depccg.Props.TopLevel
import Depccg.Props.FullOptimal
import Depccg.Props.TreeLevel
import Depccg.Props.OutputWF
-- Group C, printers and readers: C07, C08, C20, C15, C18, C19
import Depccg.Props.C07
import Depccg.Props.C07Html
import Depccg.Props.C07Deriv
import Depccg.Props.C07Prolog
import Depccg.Props.C07Conll
import Depccg.Props.C07Json
import Depccg.Props.C08
import Depccg.Props.C20
import Depccg.Props.File
import Depccg.Props.C15
import Depccg.Props.C15Text
import Depccg.Props.C15File
import Depccg.Props.C18
import Depccg.Props.C19
import Depccg.Props.NumFmt
-- Group D, data: C17
import Depccg.Props.C17Thms
import Depccg.Props.C17
-- the program: command line, configuration, totality, what it writes read back
import Depccg.Props.Cli
import Depccg.Props.Config
import Depccg.Props.MainTotal
import Depccg.Props.MainTotalXml
import Depccg.Props.MainReadsBack
import Depccg.Props.MainReadsBack2
import Depccg.Props.MainConll
import Depccg.Props.MainLine
import Depccg.Props.MainLine2
import Depccg.Props.MainDeriv
import Depccg.Props.Program
